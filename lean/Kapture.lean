import Kapture.Base.Csv
import Kapture.Base.Dict
import Kapture.Base.DriverCore
import Kapture.Base.Sort
import Kapture.Base.Vec
import Kapture.Gen.ColmapCameras
import Kapture.Gen.ComparedParts
import Kapture.Gen.DeleteRules
import Kapture.Gen.DtypeNames
import Kapture.Gen.FileNames
import Kapture.Gen.Headers
import Kapture.Gen.IoShapes
import Kapture.Gen.MergeDispatch
import Kapture.Gen.MergePoints
import Kapture.Gen.MvgIntrinsics
import Kapture.Gen.NumDigits
import Kapture.Gen.OsfmCamera
import Kapture.Gen.PairId
import Kapture.Gen.ProbStatus
import Kapture.Gen.RecordSchemas
import Kapture.Gen.RotMat
import Kapture.Gen.SpecColumns
import Kapture.Gen.SpecPaths
import Kapture.Model.C01
import Kapture.Model.C01Points
import Kapture.Model.C01Typed
import Kapture.Model.C03
import Kapture.Model.C04
import Kapture.Model.C05
import Kapture.Model.C06
import Kapture.Model.C07
import Kapture.Model.C08
import Kapture.Model.C09
import Kapture.Model.C10
import Kapture.Model.C11
import Kapture.Model.C12
import Kapture.Model.C13
import Kapture.Model.C13Text
import Kapture.Model.C14
import Kapture.Model.C15
import Kapture.Model.C16
import Kapture.Model.C17
import Kapture.Model.C18
import Kapture.Model.C19
import Kapture.Model.C20
import Kapture.Lemmas.C01
import Kapture.Lemmas.C01Points
import Kapture.Lemmas.C01Typed
import Kapture.Lemmas.C02
import Kapture.Lemmas.C03
import Kapture.Lemmas.C04
import Kapture.Lemmas.C05
import Kapture.Lemmas.C06
import Kapture.Lemmas.C07
import Kapture.Lemmas.C08
import Kapture.Lemmas.C09
import Kapture.Lemmas.C10
import Kapture.Lemmas.C11
import Kapture.Lemmas.C12
import Kapture.Lemmas.C13
import Kapture.Lemmas.C13Text
import Kapture.Lemmas.C14
import Kapture.Lemmas.C14Gen
import Kapture.Lemmas.C15
import Kapture.Lemmas.C16
import Kapture.Lemmas.C17
import Kapture.Lemmas.C17Gen
import Kapture.Lemmas.C18
import Kapture.Lemmas.C19
import Kapture.Lemmas.C20
import Kapture.Lemmas.Csv
import Kapture.Props.C01
import Kapture.Props.C02
import Kapture.Props.C03
import Kapture.Props.C04
import Kapture.Props.C05
import Kapture.Props.C06
import Kapture.Props.C07
import Kapture.Props.C08
import Kapture.Props.C09
import Kapture.Props.C10
import Kapture.Props.C11
import Kapture.Props.C12
import Kapture.Props.C13
import Kapture.Props.C14
import Kapture.Props.C15
import Kapture.Props.C16
import Kapture.Props.C17
import Kapture.Props.C18
import Kapture.Props.C19
import Kapture.Props.C20
import Kapture.Props.Csv
