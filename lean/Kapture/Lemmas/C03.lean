/-
  Lemmas/C03.lean — base-256 positional notation, the blocks of `encode`, the first occurrence of a separator.
-/
import Kapture.Model.C03

namespace Kapture.C03

def Fits (item : Nat) (elems : List Nat) : Prop := ∀ v ∈ elems, v < 256 ^ item

/-- `pat` does not occur in `s` -/
def Free (pat s : Str) : Prop := ∀ pre post, s ≠ pre ++ pat ++ post

theorem length_encodeElem (item v : Nat) : (encodeElem item v).length = item := by
  induction item generalizing v with
  | zero => rfl
  | succ k ih => exact congrArg Nat.succ (ih (v / 256))

theorem decodeElem_encodeElem (item v : Nat) : decodeElem (encodeElem item v) = v % 256 ^ item := by
  induction item generalizing v with
  | zero => rw [Nat.pow_zero, Nat.mod_one]; rfl
  | succ k ih =>
    show v % 256 + 256 * decodeElem (encodeElem k (v / 256)) = _
    rw [ih, Nat.pow_succ, Nat.mul_comm (256 ^ k), Nat.mod_mul]

theorem getElem?_encodeElem (item v k : Nat) (hk : k < item) :
    (encodeElem item v)[k]? = some ((v / 256 ^ k) % 256) := by
  induction item generalizing v k with
  | zero => cases hk
  | succ n ih =>
    cases k with
    | zero => rw [Nat.pow_zero, Nat.div_one]; rfl
    | succ j =>
      show (encodeElem n (v / 256))[j]? = _
      rw [ih (v / 256) j (Nat.lt_of_succ_lt_succ hk), Nat.div_div_eq_div_mul, Nat.pow_succ, Nat.mul_comm]

theorem encode_nil (item : Nat) : encode item [] = [] := rfl

theorem encode_cons (item v : Nat) (vs : List Nat) :
    encode item (v :: vs) = encodeElem item v ++ encode item vs :=
  List.flatMap_cons

theorem length_encode (item : Nat) (elems : List Nat) : (encode item elems).length = elems.length * item := by
  induction elems with
  | nil => rw [encode_nil, List.length_nil, Nat.zero_mul]
  | cons v vs ih =>
    rw [encode_cons, List.length_append, length_encodeElem, ih, List.length_cons, Nat.succ_mul, Nat.add_comm]

theorem chunks_encode (item : Nat) (hi : 0 < item) (elems : List Nat) (fuel : Nat) (hf : elems.length ≤ fuel) :
    chunks item fuel (encode item elems) = elems.map (encodeElem item) := by
  induction elems generalizing fuel with
  | nil => cases fuel <;> rfl
  | cons v vs ih =>
    cases fuel with
    | zero => cases hf
    | succ f =>
      have hlen := length_encodeElem item v
      have hne : encodeElem item v ≠ [] := List.ne_nil_of_length_pos (hlen.symm ▸ hi)
      rw [encode_cons]
      refine (if_neg (by simp [hne, Nat.ne_of_gt hi])).trans ?_
      rw [List.take_left' hlen, List.drop_left' hlen, ih f (Nat.le_of_succ_le_succ hf), List.map_cons]

theorem decode_encode_mod (item : Nat) (hi : 0 < item) (elems : List Nat) :
    decode item (encode item elems) = some (elems.map (· % 256 ^ item)) := by
  have hfuel : elems.length ≤ (encode item elems).length := by
    rw [length_encode]; exact Nat.le_mul_of_pos_right _ hi
  have hmod : ¬ (encode item elems).length % item ≠ 0 := fun h => h (by rw [length_encode, Nat.mul_mod_left])
  rw [decode, if_neg (Nat.ne_of_gt hi), if_neg hmod, chunks_encode item hi elems _ hfuel, List.map_map]
  exact congrArg some (List.map_congr_left fun v _ => decodeElem_encodeElem item v)

theorem reshapeRows_mul (rows cols : Nat) (hc : 0 < cols) : reshapeRows cols (rows * cols) = some rows := by
  rw [reshapeRows, if_neg (Nat.ne_of_gt hc), if_neg (fun h => h (Nat.mul_mod_left _ _)), Nat.mul_div_cancel _ hc]

theorem take_length_sub (x ext : Str) : (x ++ ext).take ((x ++ ext).length - ext.length) = x := by
  rw [List.length_append, Nat.add_sub_cancel]
  exact List.take_left' rfl

theorem Free.tail {pat : Str} {c : Char} {s : Str} (h : Free pat (c :: s)) : Free pat s :=
  fun pre post he => h (c :: pre) post (congrArg (c :: ·) he)

theorem Free.not_prefix {pat s : Str} (h : Free pat s) : pat.isPrefixOf s = false :=
  Bool.eq_false_iff.2 fun hp =>
    let ⟨t, ht⟩ := List.isPrefixOf_iff_prefix.1 hp
    h [] t ht.symm

theorem findSub_of_prefix {pat s : Str} (n : Nat) (h : pat.isPrefixOf s = true) : findSub pat n s = some 0 := by
  cases n <;> exact if_pos h

theorem findSub_cons {pat : Str} {c : Char} {t : Str} (n : Nat) (h : pat.isPrefixOf (c :: t) = false) :
    findSub pat (n + 1) (c :: t) = (findSub pat n t).map (· + 1) :=
  if_neg (Bool.eq_false_iff.1 h)

theorem findSub_free {pat s : Str} (n : Nat) (h : Free pat s) : findSub pat n s = none := by
  induction n generalizing s with
  | zero => exact if_neg (Bool.eq_false_iff.1 h.not_prefix)
  | succ m ih =>
    cases s with
    | nil => exact if_neg (Bool.eq_false_iff.1 h.not_prefix)
    | cons c t => rw [findSub_cons m h.not_prefix, ih h.tail]; rfl

theorem not_prefix_straddle (pat a rest : Str) (c : Char) (ha : Free pat (c :: a))
    (hab : ∀ k, 0 < k → k < pat.length → ¬ (pat.take k).isSuffixOf (c :: a)) :
    pat.isPrefixOf ((c :: a) ++ pat ++ rest) = false := by
  refine Bool.eq_false_iff.2 fun hp => ?_
  rw [List.isPrefixOf_iff_prefix, List.append_assoc] at hp
  -- `pat` and `c :: a` start the same list, so one starts the other
  rcases List.prefix_or_prefix_of_prefix hp (List.prefix_append (c :: a) (pat ++ rest)) with ⟨t, ht⟩ | ⟨q, hq⟩
  · exact ha [] t ht.symm
  · cases q with
    | nil => exact ha [] [] (by rw [← hq, List.append_nil, List.append_nil]; rfl)
    | cons x q =>
      refine hab (c :: a).length (Nat.succ_pos _) ?_ ?_
      · rw [← hq, List.length_append]; exact Nat.lt_add_of_pos_right (Nat.succ_pos _)
      · rw [List.isSuffixOf_iff_suffix, ← hq, List.take_left' rfl]; exact List.suffix_refl _

theorem findSub_first (pat : Str) (a rest : Str) (n : Nat) (hn : a.length ≤ n) (ha : Free pat a)
    (hab : ∀ k, 0 < k → k < pat.length → ¬ (pat.take k).isSuffixOf a) :
    findSub pat n (a ++ pat ++ rest) = some a.length := by
  induction a generalizing n with
  | nil => exact findSub_of_prefix n (List.isPrefixOf_iff_prefix.2 ⟨rest, rfl⟩)
  | cons c a ih =>
    cases n with
    | zero => cases hn
    | succ m =>
      have hab' : ∀ k, 0 < k → k < pat.length → ¬ (pat.take k).isSuffixOf a := fun k hk0 hk hs =>
        hab k hk0 hk (List.isSuffixOf_iff_suffix.2 ((List.isSuffixOf_iff_suffix.1 hs).trans (List.suffix_cons c a)))
      exact (findSub_cons (t := a ++ pat ++ rest) m (not_prefix_straddle pat a rest c ha hab)).trans
        (by rw [ih m (Nat.le_of_succ_le_succ hn) ha.tail hab']; rfl)

theorem splitOn_free {pat s : Str} (fuel : Nat) (h : Free pat s) : splitOn pat fuel s = [s] := by
  cases fuel with
  | zero => rfl
  | succ g =>
    rw [splitOn, findSub_free _ h]
    exact ite_self _

theorem splitOn_pair (pat a b : Str) (hp : pat ≠ []) (ha : Free pat a) (hb : Free pat b)
    (hab : ∀ k, 0 < k → k < pat.length → ¬ (pat.take k).isSuffixOf a) (fuel : Nat) (hfuel : fuel ≠ 0) :
    splitOn pat fuel (a ++ pat ++ b) = [a, b] := by
  obtain _ | fuel := fuel
  · exact absurd rfl hfuel
  have hfind := findSub_first pat a b (a ++ pat ++ b).length
    (by rw [List.append_assoc, List.length_append]; exact Nat.le_add_right _ _) ha hab
  rw [splitOn, if_neg (mt List.isEmpty_iff.1 hp), hfind]
  show _ :: splitOn pat fuel _ = _
  rw [List.drop_left' (List.length_append ..), splitOn_free fuel hb, List.append_assoc, List.take_left' rfl]

end Kapture.C03
