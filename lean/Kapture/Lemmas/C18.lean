/-
  Lemmas/C18.lean — `realpath` is reasoned about one step at a time (`rstep`, `realpath_cons`, `realpath_induct`).  The other
  functions of the model are analysed along their own branches (`fun_cases`, `fun_induction`): the bullets of such a proof
  follow the branches of the definition in the order in which it is written.  The containment argument
  (`extractMember_not_escaped`) rests on four facts:
    `kresolve_realpath`      where the kernel's walk succeeds, Python's lexical `realpath` gives the same path;
    `realpath_trans`         a `realpath` over `xs ++ ys` whose prefix `xs` resolves to `p` continues from `p`;
    `realpath_lexical_some`  below a path that does not exist (in a tree where nothing exists below a missing path),
                             `realpath` of `..`-free components is purely lexical;
    `realpath_congr`         `realpath` depends on the tree only through its symbolic links (making directories does not
                             change it).
  `walkStep_inv` carries what the filter vetted along `os.makedirs`; `Placed` says what making the entry itself can come to
  (whatever is written is written at a `Landing`), and `extractMember_cases` what the guards before it established.  The last
  part (benign members) is about progress and the exact resulting tree (`Along`), which the containment half does not speak of:
  it shares with it only the forward equations (`walkStep_plain`, `extractMember_of_admitted`, `groundOf_free_iff`).
-/
import Kapture.Model.C18

namespace Kapture.C18

/-- no symbolic link anywhere in the tree -/
def LinkFree (fs : FS) : Prop := ∀ e ∈ fs, ∀ t, e.2 ≠ Node.link t

/-- a real name: what a component is when it is neither skipped (`""`, `.`) nor the parent (`..`) -/
def Plain (c : String) : Prop := c ≠ "" ∧ c ≠ "." ∧ c ≠ ".."

/-- a plain relative name: no empty / "." / ".." component, not absolute -/
def PlainName (s : String) : Prop := ∀ c ∈ split s, c ≠ "" ∧ c ≠ "." ∧ c ≠ ".."
-- that is, `∀ c ∈ split s, Plain c`

def Inside (dest target : Path) : Prop := isPrefix dest target = true

/-- nothing exists below a path that does not exist (true of every real tree) -/
def Closed (fs : FS) : Prop := ∀ p q, lookup fs p = none → lookup fs (p ++ q) = none

variable {dest : Path} {fs : FS}

/-- `Plain`, as the two tests the model makes of a component -/
theorem plain_iff {c : String} : Plain c ↔ (c == "" || c == ".") = false ∧ (c == "..") = false := by
  simp [Plain, and_assoc]

/-- ... and as the one test `last == "" || last == "." || last == ".."` -/
theorem plain_iff_three {c : String} : Plain c ↔ (c == "" || c == "." || c == "..") = false := by
  simp [Plain, and_assoc]

theorem dropLast_getLast {cs : List String} (h : cs ≠ []) : cs = cs.dropLast ++ [cs.getLast?.getD ""] := by
  rw [List.getLast?_eq_some_getLast h]
  exact (List.dropLast_concat_getLast h).symm

/-! ### prefixes -/

theorem isPrefix_iff {a b : Path} : isPrefix a b = true ↔ a <+: b := by
  simp only [isPrefix, Bool.and_eq_true, decide_eq_true_eq, beq_iff_eq]
  refine ⟨fun h => ?_, fun h => ⟨h.length_le, (List.prefix_iff_eq_take.mp h).symm⟩⟩
  have := List.take_prefix a.length b
  rwa [h.2] at this

theorem isPrefix_false_iff {a b : Path} : isPrefix a b = false ↔ ¬a <+: b := by
  rw [← isPrefix_iff, Bool.not_eq_true]

theorem isPrefix_append (a b : Path) : isPrefix a (a ++ b) = true := isPrefix_iff.mpr (List.prefix_append a b)

theorem isPrefix_refl (a : Path) : isPrefix a a = true := isPrefix_iff.mpr List.prefix_rfl

theorem isPrefix_nil (a : Path) : isPrefix [] a = true := isPrefix_iff.mpr List.nil_prefix

theorem isPrefix_length {a b : Path} (h : isPrefix a b = true) : a.length ≤ b.length := (isPrefix_iff.mp h).length_le

theorem isPrefix_trans {a b c : Path} (h1 : isPrefix a b = true) (h2 : isPrefix b c = true) : isPrefix a c = true :=
  isPrefix_iff.mpr ((isPrefix_iff.mp h1).trans (isPrefix_iff.mp h2))

theorem isPrefix_comparable {a b c : Path} (h1 : isPrefix a c = true) (h2 : isPrefix b c = true) :
    isPrefix a b = true ∨ isPrefix b a = true :=
  (List.prefix_or_prefix_of_prefix (isPrefix_iff.mp h1) (isPrefix_iff.mp h2)).imp isPrefix_iff.mpr isPrefix_iff.mpr

theorem isPrefix_concat_cases {q pre : Path} {c : String} (h : isPrefix q (pre ++ [c]) = true) :
    q = pre ++ [c] ∨ isPrefix q pre = true :=
  (List.prefix_concat_iff.mp (isPrefix_iff.mp h)).imp_right isPrefix_iff.mpr

theorem isPrefix_concat_false {q pre : Path} {c : String} (h : isPrefix q (pre ++ [c]) = false) : isPrefix q pre = false :=
  isPrefix_false_iff.mpr fun hq => isPrefix_false_iff.mp h (hq.trans (List.prefix_append pre [c]))

theorem isPrefix_concat_self (pre : Path) (c : String) : isPrefix (pre ++ [c]) pre = false :=
  isPrefix_false_iff.mpr fun h => by have := h.length_le; simp at this; omega

/-- `p` is dest, below dest, or an ancestor of dest: the part of the world the model knows -/
def known (dest p : Path) : Prop := isPrefix dest p = true ∨ isPrefix p dest = true

/-! ### the tree as a finite map -/

theorem rel_append (dest x : Path) : rel dest (dest ++ x) = x := by simp [rel]

theorem rel_append_of_prefix {dest p : Path} (h : isPrefix dest p = true) (x : Path) : rel dest (p ++ x) = rel dest p ++ x := by
  obtain ⟨y, rfl⟩ := isPrefix_iff.mp h
  simp [rel]

theorem eq_of_rel_eq {dest p q : Path} (hp : isPrefix dest p = true) (hq : isPrefix dest q = true)
    (h : rel dest p = rel dest q) : p = q := by
  obtain ⟨x, rfl⟩ := isPrefix_iff.mp hp
  obtain ⟨y, rfl⟩ := isPrefix_iff.mp hq
  rw [rel_append, rel_append] at h
  rw [h]

theorem lookup_nil (fs : FS) : lookup fs [] = some Node.dir := by simp [lookup]

theorem lookup_empty {q : Path} (hq : q ≠ []) : lookup [] q = none := by
  cases q with
  | nil => exact absurd rfl hq
  | cons a q => rfl

theorem closed_nil : Closed [] := by
  intro p q h
  cases p with
  | nil => rw [lookup_nil] at h; cases h
  | cons a p => rfl

theorem lookup_not_link (h : LinkFree fs) {p : Path} {t : String} : lookup fs p ≠ some (Node.link t) := by
  unfold lookup
  split
  · simp
  · intro heq
    rw [Option.map_eq_some_iff] at heq
    obtain ⟨e, he, h2⟩ := heq
    exact h e (List.mem_of_find?_eq_some he) t h2

theorem lookup_setNode_self {p : Path} {n : Node} (hp : p ≠ []) : lookup (setNode fs p n) p = some n := by
  have hpe : p.isEmpty = false := by cases p <;> simp_all
  unfold lookup setNode
  rw [hpe]
  simp only [Bool.false_eq_true, if_false]
  split
  · rename_i hany
    induction fs with
    | nil => simp at hany
    | cons e fs ih =>
      simp only [List.map_cons, List.find?_cons]
      by_cases he : e.1 == p
      · simp [he]
      · simp only [he, Bool.false_eq_true, if_false]
        simp only [List.any_cons, he, Bool.false_or] at hany
        exact ih hany
  · rename_i hany
    have hnone : fs.find? (fun e => e.1 == p) = none := by
      rw [List.find?_eq_none]
      intro e he hh
      exact hany (List.any_eq_true.mpr ⟨e, he, hh⟩)
    simp [List.find?_append, hnone]

theorem find_map_replace_ne {p q : Path} {n : Node} (hpq : (p == q) = false) :
    (fs.map (fun e => if e.1 == p then (p, n) else e)).find? (fun e => e.1 == q) = fs.find? (fun e => e.1 == q) := by
  induction fs with
  | nil => rfl
  | cons e fs ih =>
    simp only [List.map_cons, List.find?_cons]
    by_cases he : e.1 == p
    · have e1 : e.1 = p := by simpa using he
      have h2 : (e.1 == q) = false := by rw [e1]; exact hpq
      rw [if_pos he]
      simp only [hpq, h2]
      exact ih
    · rw [if_neg he]
      by_cases h2 : e.1 == q
      · simp [h2]
      · simp only [h2]
        exact ih

theorem lookup_setNode_ne {p q : Path} {n : Node} (hq : q ≠ p) : lookup (setNode fs p n) q = lookup fs q := by
  have hpq : (p == q) = false := by simpa using fun e => hq e.symm
  unfold lookup
  split
  · rfl
  · congr 1
    unfold setNode
    split
    · exact find_map_replace_ne hpq
    · simp [List.find?_append, hpq]

/-! ### `realpath`, one step at a time -/

/-- the node `realpath` looks at -/
def nodeAt (dest : Path) (fs : FS) (p : Path) : Option Node := if isPrefix dest p then lookup fs (p.drop dest.length) else none

/-- one step of `realpath`: where it stands after the component `c`, and the components it has to walk next (those of a
  link's target) -/
def rstep (dest : Path) (fs : FS) (cur : Path) (c : String) : Path × List String :=
  if c == "" || c == "." then (cur, [])
  else if c == ".." then (cur.dropLast, [])
  else match nodeAt dest fs (cur ++ [c]) with
    | some (Node.link t) => (if t.startsWith "/" then [] else cur, split t)
    | _ => (cur ++ [c], [])

theorem realpath_cons {n : Nat} {cur : Path} {c : String} {rest : List String} :
    realpath dest fs (n + 1) cur (c :: rest) = realpath dest fs n (rstep dest fs cur c).1 ((rstep dest fs cur c).2 ++ rest) := by
  rw [realpath.eq_3]
  unfold rstep
  dsimp only
  rw [show (if isPrefix dest (cur ++ [c]) = true then lookup fs (List.drop dest.length (cur ++ [c])) else none)
    = nodeAt dest fs (cur ++ [c]) from rfl]
  cases (c == "" || c == ".") with
  | true => rfl
  | false =>
    cases (c == "..") with
    | true => rfl
    | false =>
      cases nodeAt dest fs (cur ++ [c]) with
      | none => rfl
      | some nd =>
        cases nd with
        | link t => simp only [Bool.false_eq_true, if_false]; split <;> rfl
        | dir => rfl
        | file k => rfl

variable {cur : Path} {c : String}

theorem rstep_trivial (h : (c == "" || c == ".") = true) : rstep dest fs cur c = (cur, []) := by
  rw [rstep, if_pos h]

theorem rstep_link (hc : Plain c) {t : String} (hn : nodeAt dest fs (cur ++ [c]) = some (Node.link t)) :
    rstep dest fs cur c = (if t.startsWith "/" then [] else cur, split t) := by
  rw [rstep, if_neg (Bool.eq_false_iff.mp (plain_iff.mp hc).1), if_neg (Bool.eq_false_iff.mp (plain_iff.mp hc).2), hn]

theorem rstep_plain (hc : Plain c) (hn : ∀ t, nodeAt dest fs (cur ++ [c]) ≠ some (Node.link t)) :
    rstep dest fs cur c = (cur ++ [c], []) := by
  rw [rstep, if_neg (Bool.eq_false_iff.mp (plain_iff.mp hc).1), if_neg (Bool.eq_false_iff.mp (plain_iff.mp hc).2)]
  split
  · rename_i t hnode; exact absurd hnode (hn t)
  · rfl

theorem rstep_congr {fs2 : FS}
    (hl : ∀ p t, nodeAt dest fs p = some (Node.link t) ↔ nodeAt dest fs2 p = some (Node.link t)) :
    rstep dest fs cur c = rstep dest fs2 cur c := by
  cases h1 : (c == "" || c == ".") with
  | true => rw [rstep_trivial h1, rstep_trivial h1]
  | false =>
    cases h2 : (c == "..") with
    | true => rw [eq_of_beq h2]; rfl
    | false =>
      have hc := plain_iff.mpr ⟨h1, h2⟩
      by_cases hn : ∃ t, nodeAt dest fs (cur ++ [c]) = some (Node.link t)
      · obtain ⟨t, ht⟩ := hn
        rw [rstep_link hc ht, rstep_link hc ((hl _ t).mp ht)]
      · rw [rstep_plain hc fun t ht => hn ⟨t, ht⟩, rstep_plain hc fun t ht => hn ⟨t, (hl _ t).mpr ht⟩]

theorem realpath_induct (dest : Path) (fs : FS) {motive : Nat → Path → List String → Prop}
    (zero : ∀ cur cs, motive 0 cur cs) (nil : ∀ n cur, motive (n + 1) cur [])
    (cons : ∀ n cur c rest, motive n (rstep dest fs cur c).1 ((rstep dest fs cur c).2 ++ rest) → motive (n + 1) cur (c :: rest)) :
    ∀ n cur cs, motive n cur cs := by
  intro n
  induction n with
  | zero => exact zero
  | succ n ih =>
    intro cur cs
    cases cs with
    | nil => exact nil n cur
    | cons c rest => exact cons n cur c rest (ih _ _)

theorem realpath_mono_le {n m : Nat} {cs : List String} {p : Path} (hm : n ≤ m)
    (h : realpath dest fs n cur cs = some p) : realpath dest fs m cur cs = some p := by
  induction n, cur, cs using realpath_induct dest fs generalizing m with
  | zero cur cs => simp [realpath] at h
  | nil n cur =>
    obtain ⟨m, rfl⟩ := Nat.exists_eq_add_of_lt hm
    exact h
  | cons n cur c rest ih =>
    obtain ⟨m, rfl⟩ := Nat.exists_eq_add_of_lt hm
    rw [realpath_cons] at h ⊢
    exact ih (Nat.le_add_right n m) h

theorem realpath_det {n m : Nat} {cs : List String} {a b : Path}
    (h1 : realpath dest fs n cur cs = some a) (h2 : realpath dest fs m cur cs = some b) : a = b := by
  have e1 := realpath_mono_le (Nat.le_max_left n m) h1
  have e2 := realpath_mono_le (Nat.le_max_right n m) h2
  rw [e1] at e2
  exact Option.some.inj e2

theorem realpath_congr {fs1 fs2 : FS}
    (hl : ∀ p t, nodeAt dest fs1 p = some (Node.link t) ↔ nodeAt dest fs2 p = some (Node.link t))
    (n : Nat) (cur : Path) (cs : List String) : realpath dest fs1 n cur cs = realpath dest fs2 n cur cs := by
  induction n, cur, cs using realpath_induct dest fs1 with
  | zero cur cs => rfl
  | nil n cur => rfl
  | cons n cur c rest ih =>
    rw [realpath_cons, realpath_cons, ← rstep_congr hl]
    exact ih

theorem realpath_trans {n : Nat} {xs : List String} {p : Path} (h : realpath dest fs n cur xs = some p)
    {j : Nat} {ys : List String} {t : Path} (hj : realpath dest fs j p ys = some t) :
    realpath dest fs (n + j) cur (xs ++ ys) = some t := by
  induction n, cur, xs using realpath_induct dest fs with
  | zero cur xs => simp [realpath] at h
  | nil n cur => exact realpath_mono_le (Nat.le_add_left j (n + 1)) (Option.some.inj h ▸ hj)
  | cons n cur c rest ih =>
    rw [realpath_cons] at h
    rw [show n + 1 + j = (n + j) + 1 by omega, List.cons_append, realpath_cons, ← List.append_assoc]
    exact ih h

theorem realpath_skipped {n : Nat} {cs : List String} {t : Path} (hc : ∀ c ∈ cs, (c == "" || c == ".") = true)
    (h : realpath dest fs n cur cs = some t) : t = cur := by
  induction n, cur, cs using realpath_induct dest fs with
  | zero cur cs => simp [realpath] at h
  | nil n cur => exact (Option.some.inj h).symm
  | cons n cur c rest ih =>
    have hr := rstep_trivial (dest := dest) (fs := fs) (cur := cur) (hc c (by simp))
    rw [realpath_cons, hr] at h
    rw [hr] at ih
    exact ih (fun c' hc' => hc c' (List.mem_cons_of_mem _ hc')) h

theorem realpath_drop_trailing {k n : Nat} {xs : List String} {t : Path}
    (h : realpath dest fs n cur (xs ++ List.replicate k "") = some t) : realpath dest fs n cur xs = some t := by
  induction n, cur, xs using realpath_induct dest fs with
  | zero cur xs => simp [realpath] at h
  | nil n cur =>
    rw [realpath_skipped (fun c hc => by rw [List.eq_of_mem_replicate hc]; rfl) h]
    rfl
  | cons n cur c rest ih =>
    rw [List.cons_append, realpath_cons, ← List.append_assoc] at h
    rw [realpath_cons]
    exact ih h

theorem realpath_step_plain {rest : List String} {j : Nat} (hc : Plain c)
    (hn : ∀ t, nodeAt dest fs (cur ++ [c]) ≠ some (Node.link t)) :
    realpath dest fs (j + 1) cur (c :: rest) = realpath dest fs j (cur ++ [c]) rest := by
  rw [realpath_cons, rstep_plain hc hn]
  rfl

theorem realpath_lexical_some (cs : List String) (base : Path)
    (H : ∀ x, x ≠ [] → ∀ l, nodeAt dest fs (base ++ x) ≠ some (Node.link l)) (hdd : ".." ∉ cs) :
    realpath dest fs (cs.length + 1) base cs = some (base ++ cs.filter (fun c => !(c == "" || c == "."))) := by
  induction cs generalizing base with
  | nil => simp [realpath]
  | cons c rest ih =>
    have hdd' : ".." ∉ rest := fun hm => hdd (List.mem_cons_of_mem _ hm)
    have hc : (c == "..") = false := beq_eq_false_iff_ne.mpr fun e => hdd (e ▸ List.mem_cons_self)
    rw [List.length_cons, List.filter_cons]
    cases h1 : (c == "" || c == ".") with
    | true =>
      rw [realpath_cons, rstep_trivial h1]
      exact ih base H hdd'
    | false =>
      rw [realpath_step_plain (plain_iff.mpr ⟨h1, hc⟩) (H [c] (by simp))]
      have := ih (base ++ [c]) (fun x hx l => by rw [List.append_assoc]; exact H ([c] ++ x) (by simp) l) hdd'
      simpa using this

theorem realpath_lexical (dest : Path) (fs : FS) : ∀ (n : Nat) (base : Path) (cs : List String) (t : Path),
    (∀ x, x ≠ [] → ∀ l, nodeAt dest fs (base ++ x) ≠ some (Node.link l)) → ".." ∉ cs →
    realpath dest fs n base cs = some t → t = base ++ cs.filter (fun c => !(c == "" || c == ".")) :=
  fun _ base cs _ H hdd h => realpath_det h (realpath_lexical_some cs base H hdd)

/-! ### the kernel's walk against `realpath` -/

theorem kresolve_realpath (dest : Path) (fs : FS) : ∀ (n : Nat) (cur : Path) (cs : List String) (p : Path),
    kresolve dest fs n cur cs = some p → realpath dest fs n cur cs = some p := by
  intro n cur cs p
  fun_induction kresolve dest fs n cur cs <;> intro h
  · cases h
  · exact h
  -- where `kresolve` goes on after a component, `realpath` takes the same branch: it looks below dest only, and for links only
  all_goals rw [realpath.eq_3]; dsimp only
  · next h1 ih => rw [if_pos h1]; exact ih h
  · next h1 h2 ih => rw [if_neg h1, if_pos h2]; exact ih h
  · next h1 h2 _ hin _ ih => rw [if_neg h1, if_neg h2, if_neg (by simpa using hin)]; exact ih h
  · cases h
  · cases h
  · next h1 h2 _ hin t hl ht ih =>
    rw [if_neg h1, if_neg h2, if_pos (by simpa using hin), hl]
    dsimp only
    rw [if_pos ht]
    exact ih h
  · next h1 h2 _ hin t hl ht ih =>
    rw [if_neg h1, if_neg h2, if_pos (by simpa using hin), hl]
    dsimp only
    rw [if_neg ht]
    exact ih h
  · next h1 h2 _ hin hl ih => rw [if_neg h1, if_neg h2, if_pos (by simpa using hin), hl]; exact ih h
  · next h1 h2 _ hin _ hl _ ih => rw [if_neg h1, if_neg h2, if_pos (by simpa using hin), hl]; exact ih h
  · cases h

/-! ### what stands at an absolute path -/

theorem existsAbs_ancestor {p : Path} (h : isPrefix p dest = true) : existsAbs dest fs p = some Node.dir := by
  unfold existsAbs
  split
  · rename_i hp
    rw [(isPrefix_iff.mp h).eq_of_length_le (isPrefix_length hp)]
    simp [rel, lookup]
  · rfl

theorem existsAbs_dest (dest : Path) (fs : FS) : existsAbs dest fs dest = some Node.dir := existsAbs_ancestor (isPrefix_refl dest)

theorem existsAbs_below (dest : Path) (fs : FS) (x : Path) : existsAbs dest fs (dest ++ x) = lookup fs x := by
  simp [existsAbs, isPrefix_append, rel]

theorem existsAbs_known {p : Path} {n : Node} (h : existsAbs dest fs p = some n) : known dest p := by
  unfold existsAbs at h
  by_cases hp : isPrefix dest p = true
  · exact Or.inl hp
  · rw [if_neg hp] at h
    by_cases ha : isPrefix p dest = true
    · exact Or.inr ha
    · rw [if_neg ha] at h; cases h

theorem isDirAt_iff {p : Path} : isDirAt dest fs p = true ↔ existsAbs dest fs p = some Node.dir := by
  unfold isDirAt existsAbs
  split
  · exact beq_iff_eq
  · split <;> simp [*]

theorem strictInside_isPrefix {dest p : Path} (h : strictInside dest p = true) : isPrefix dest p = true := by
  simp only [strictInside, Bool.and_eq_true] at h; exact h.1

theorem strictInside_ne_nil {dest p : Path} (h : strictInside dest p = true) : rel dest p ≠ [] := by
  simp only [strictInside, Bool.and_eq_true, decide_eq_true_eq] at h
  intro e
  have := congrArg List.length e
  simp [rel] at this
  omega

theorem strictInside_append {dest p : Path} (h : strictInside dest p = true) (x : Path) : strictInside dest (p ++ x) = true := by
  simp only [strictInside, Bool.and_eq_true, decide_eq_true_eq] at h ⊢
  refine ⟨isPrefix_trans h.1 (isPrefix_append p x), ?_⟩
  simp only [List.length_append]
  omega

theorem strictInside_of_ne {dest p : Path} (h : isPrefix dest p = true) (hne : dest ≠ p) : strictInside dest p = true := by
  have hl : dest.length ≠ p.length := fun e => hne ((isPrefix_iff.mp h).eq_of_length e)
  have := isPrefix_length h
  simp [strictInside, h]
  omega

theorem strictInside_of_not_dir {p : Path} (hk : known dest p)
    (hex : existsAbs dest fs p ≠ some Node.dir) : strictInside dest p = true :=
  strictInside_of_ne (hk.resolve_right fun h => hex (existsAbs_ancestor h)) fun e => hex (e ▸ existsAbs_dest dest fs)

theorem nodeAt_link_iff {p : Path} {t : String} :
    nodeAt dest fs p = some (Node.link t) ↔ existsAbs dest fs p = some (Node.link t) := by
  unfold existsAbs nodeAt rel
  split
  · rfl
  · constructor
    · intro h; cases h
    · intro h; split at h <;> cases h

/-! ### where `open` lands -/

/-- the hypotheses are what `kopen` knows when it looks at the last component -/
theorem kopen_last {cs : List String} {p : Path} (hk : kresolve dest fs FUEL cur cs.dropLast = some p)
    (hl : ¬(cs.getLast?.getD "" == "" || cs.getLast?.getD "" == "." || cs.getLast?.getD "" == "..") = true) :
    Plain (cs.getLast?.getD "") ∧ ∀ {j : Nat} {q : Path},
      realpath dest fs j (rstep dest fs p (cs.getLast?.getD "")).1 (rstep dest fs p (cs.getLast?.getD "")).2 = some q →
      ∃ m, realpath dest fs m cur cs = some q := by
  refine ⟨plain_iff_three.mpr (Bool.eq_false_iff.mpr hl), fun {j q} h => ?_⟩
  rw [dropLast_getLast (cs := cs) (by intro e; subst e; simp at hl)]
  refine ⟨_, realpath_trans (kresolve_realpath _ _ _ _ _ _ hk) (j := j + 1) ?_⟩
  rw [realpath_cons, List.append_nil]
  exact h

/-- a place `q` where an entry is written for the name `cs` seen from `cur`: in an existing directory, not onto a directory, and,
  as long as nothing stands there, where `realpath` arrives -/
structure Landing (dest : Path) (fs : FS) (cur : Path) (cs : List String) (q : Path) : Prop where
  parent : ∃ p l, q = p ++ [l] ∧ isDirAt dest fs p = true
  notDir : existsAbs dest fs q ≠ some Node.dir
  resolved : existsAbs dest fs q = none → ∃ m, realpath dest fs m cur cs = some q

theorem kopen_ok {n : Nat} {cs : List String} {q : Path} : kopen dest fs n cur cs = Except.ok q → Landing dest fs cur cs q := by
  -- the errors; then what stands at `p/last`: nothing, a file (both opened there), a directory, a link (followed)
  fun_induction kopen dest fs n cur cs <;> intro h
  iterate 4 cases h
  · next p hk hdir hl _ hex =>
    injection h with h; subst h
    obtain ⟨hpl, hr⟩ := kopen_last hk hl
    exact ⟨⟨p, _, rfl, by simpa using hdir⟩, by rw [hex]; nofun,
      fun _ => hr (j := 1) (by rw [rstep_plain hpl fun t ht => by rw [nodeAt_link_iff, hex] at ht; cases ht]; rfl)⟩
  · next p _ hdir _ _ k hex =>
    injection h with h; subst h
    exact ⟨⟨p, _, rfl, by simpa using hdir⟩, by rw [hex]; nofun, fun hn => by rw [hex] at hn; cases hn⟩
  · cases h
  · next p hk _ hl _ t hex ht ih =>
    obtain ⟨hpl, hr⟩ := kopen_last hk hl
    obtain ⟨hpar, hnd, hres⟩ := ih h
    exact ⟨hpar, hnd, fun hn => (hres hn).elim fun m hm =>
      hr (by rw [rstep_link hpl (nodeAt_link_iff.mpr hex), if_pos ht]; exact hm)⟩
  · next p hk _ hl _ t hex ht ih =>
    obtain ⟨hpl, hr⟩ := kopen_last hk hl
    obtain ⟨hpar, hnd, hres⟩ := ih h
    exact ⟨hpar, hnd, fun hn => (hres hn).elim fun m hm =>
      hr (by rw [rstep_link hpl (nodeAt_link_iff.mpr hex), if_neg ht]; exact hm)⟩

/-- what the filter vetted, seen from the directory `p` the kernel reached for the parent: whatever `realpath` yields from
  `p` over the last component is the vetted target -/
def Vetted (dest : Path) (fs : FS) (p : Path) (rest : List String) (target : Path) : Prop :=
  ∀ j t, realpath dest fs j p rest = some t → t = target

theorem Vetted.after {xs ys : List String} {target : Path}
    (hv : Vetted dest fs cur (xs ++ ys) target) {n : Nat} {p : Path} (h : realpath dest fs n cur xs = some p) :
    Vetted dest fs p ys target :=
  fun j t hj => hv (n + j) t (realpath_trans h hj)

/-! ### making the parent directories -/

/-- the invariant of `os.makedirs` walking the literal parent path: `fs0` is the tree the filter looked at -/
structure WalkInv (dest : Path) (fs0 : FS) (target : Path) (last : String) (w : Walk) (todo : List String) : Prop where
  links : ∀ p t, nodeAt dest w.fs p = some (Node.link t) ↔ nodeAt dest fs0 p = some (Node.link t)
  sub : ∀ q, lookup w.fs q = none → lookup fs0 q = none
  knownCur : known dest w.cur
  fresh : w.creating = true → strictInside dest w.cur = true ∧ lookup fs0 (rel dest w.cur) = none
  vetted : Vetted dest fs0 w.cur (todo ++ [last]) target

theorem no_link_below {fs0 : FS} (hc : Closed fs0) {lit : Path} (h : existsAbs dest fs0 lit = none) :
    ∀ x, x ≠ [] → ∀ l, nodeAt dest fs0 (lit ++ x) ≠ some (Node.link l) := by
  intro x _ l hl
  unfold nodeAt at hl
  split at hl
  · rename_i hpx
    rcases isPrefix_comparable hpx (isPrefix_append lit x) with h' | h'
    · rw [existsAbs, if_pos h'] at h
      rw [show List.drop dest.length (lit ++ x) = rel dest lit ++ x from rel_append_of_prefix h' x, hc _ x h] at hl
      cases hl
    · rw [existsAbs_ancestor h'] at h; cases h
  · cases hl

theorem nodeAt_setNode_dir {k : Path} (hk : k ≠ []) (hnone : lookup fs k = none) (p : Path) (t : String) :
    nodeAt dest (setNode fs k Node.dir) p = some (Node.link t) ↔ nodeAt dest fs p = some (Node.link t) := by
  unfold nodeAt
  split
  · by_cases e : List.drop dest.length p = k
    · rw [e, lookup_setNode_self hk, hnone]; simp
    · rw [lookup_setNode_ne e]
  · rfl

theorem walkStep_trivial {w : Walk} {c : String} (h : (c == "" || c == ".") = true) : walkStep dest w c = Except.ok w := by
  rw [walkStep, if_pos h]

theorem walkStep_plain {w : Walk} {c : String} (hc : Plain c) : walkStep dest w c =
    match existsAbs dest w.fs (w.cur ++ [c]) with
    | none =>
      if strictInside dest (w.cur ++ [c]) then
        Except.ok { fs := setNode w.fs (rel dest (w.cur ++ [c])) Node.dir, cur := w.cur ++ [c], creating := true }
      else Except.error (WalkErr.escaped (w.cur ++ [c]))
    | some Node.dir => Except.ok { w with cur := w.cur ++ [c] }
    | some (Node.file _) => Except.error (WalkErr.os w.fs "NotADirectoryError")
    | some (Node.link _) =>
      match kresolve dest w.fs FUEL w.cur [c] with
      | some p => if isDirAt dest w.fs p then Except.ok { w with cur := p } else Except.error (WalkErr.os w.fs "NotADirectoryError")
      | none => Except.error (WalkErr.os w.fs "FileExistsError") := by
  rw [walkStep, if_neg (Bool.eq_false_iff.mp (plain_iff.mp hc).1), if_neg (Bool.eq_false_iff.mp (plain_iff.mp hc).2)]
  rfl

theorem walkStep_inv {dest : Path} {fs0 : FS} (hc : Closed fs0) {target : Path} (ht : isPrefix dest target = true) {last : String}
    (hl2 : (last == "..") = false)
    {w : Walk} {c : String} {todo : List String} (hdd : ".." ∉ c :: todo)
    (inv : WalkInv dest fs0 target last w (c :: todo)) :
    (∀ q, walkStep dest w c ≠ Except.error (WalkErr.escaped q)) ∧
    (∀ w', walkStep dest w c = Except.ok w' → WalkInv dest fs0 target last w' todo) := by
  have h2 : (c == "..") = false := beq_eq_false_iff_ne.mpr fun e => hdd (e ▸ List.mem_cons_self)
  have hddrest : ".." ∉ todo ++ [last] := by
    simp only [List.mem_append, List.mem_singleton, not_or]
    exact ⟨fun hm => hdd (List.mem_cons_of_mem _ hm), fun e => beq_eq_false_iff_ne.mp hl2 e.symm⟩
  cases h1 : (c == "" || c == ".") with
  | true =>
    rw [walkStep_trivial h1]
    refine ⟨fun q => nofun, fun w' h => ?_⟩
    cases h
    -- fuel 2 for the one-component `realpath`: one unit for the component, one for the empty rest
    exact { inv with vetted := inv.vetted.after (xs := [c]) (n := 2) (by rw [realpath_cons, rstep_trivial h1]; rfl) }
  | false =>
    have hpc : Plain c := plain_iff.mpr ⟨h1, h2⟩
    rw [walkStep_plain hpc]
    have vet_push : (∀ t, existsAbs dest w.fs (w.cur ++ [c]) ≠ some (Node.link t)) →
        Vetted dest fs0 (w.cur ++ [c]) (todo ++ [last]) target := fun hn =>
      inv.vetted.after (xs := [c]) (n := 2) (by
        rw [realpath_step_plain hpc fun t h0 => hn t (nodeAt_link_iff.mp ((inv.links _ t).mpr h0))]; rfl)
    cases hex : existsAbs dest w.fs (w.cur ++ [c]) with
    | none =>
      dsimp only
      have hvet := vet_push (by simp [hex])
      -- nothing stands there in fs0 either, so what is left of the name is resolved lexically below it
      have hex0 : existsAbs dest fs0 (w.cur ++ [c]) = none := by
        by_cases hp : isPrefix dest (w.cur ++ [c]) = true
        · rw [existsAbs, if_pos hp] at hex ⊢; exact inv.sub _ hex
        · rw [existsAbs, if_neg hp] at hex ⊢; exact hex
      have hlex := realpath_lexical_some (todo ++ [last]) (w.cur ++ [c]) (no_link_below hc hex0) hddrest
      have hstrict : strictInside dest (w.cur ++ [c]) = true := by
        rw [← hvet _ _ hlex] at ht
        exact strictInside_of_not_dir (isPrefix_comparable ht (isPrefix_append (w.cur ++ [c]) _)) (by rw [hex]; nofun)
      rw [if_pos hstrict]
      refine ⟨fun q => nofun, fun w' h => ?_⟩
      cases h
      have hp := strictInside_isPrefix hstrict
      rw [existsAbs, if_pos hp] at hex hex0
      refine ⟨fun p t => ?_, fun q hq => ?_, Or.inl hp, fun _ => ⟨hstrict, hex0⟩, hvet⟩
      · rw [nodeAt_setNode_dir (strictInside_ne_nil hstrict) hex, inv.links]
      · dsimp only at hq
        by_cases e : q = rel dest (w.cur ++ [c])
        · rw [e, lookup_setNode_self (strictInside_ne_nil hstrict)] at hq; cases hq
        · rw [lookup_setNode_ne e] at hq; exact inv.sub q hq
    | some nd =>
      cases nd with
      | file k => exact ⟨fun q => nofun, fun w' => nofun⟩
      | dir =>
        refine ⟨fun q => nofun, fun w' h => ?_⟩
        cases h
        refine ⟨inv.links, inv.sub, existsAbs_known hex, fun hcr => ?_, vet_push (by simp [hex])⟩
        obtain ⟨hs, hn⟩ := inv.fresh hcr
        refine ⟨strictInside_append hs _, ?_⟩
        rw [rel_append_of_prefix (strictInside_isPrefix hs)]
        exact hc _ _ hn
      | link tl =>
        dsimp only
        cases hkp : kresolve dest w.fs FUEL w.cur [c] with
        | none => exact ⟨fun q => nofun, fun w' => nofun⟩
        | some p =>
          dsimp only
          by_cases hd : isDirAt dest w.fs p = true
          · rw [if_pos hd]
            refine ⟨fun q => nofun, fun w' h => ?_⟩
            cases h
            refine ⟨inv.links, inv.sub, existsAbs_known (isDirAt_iff.mp hd), fun hcr => ?_,
              inv.vetted.after (xs := [c]) (realpath_congr inv.links _ _ _ ▸ kresolve_realpath _ _ _ _ _ _ hkp)⟩
            -- while creating, nothing exists below cur in fs0: no link can stand there
            obtain ⟨hs, hn⟩ := inv.fresh hcr
            have hcur0 : existsAbs dest fs0 w.cur = none := by rw [existsAbs, if_pos (strictInside_isPrefix hs)]; exact hn
            exact absurd ((inv.links _ tl).mp (nodeAt_link_iff.mpr hex)) (no_link_below hc hcur0 [c] (by simp) tl)
          · rw [if_neg hd]
            exact ⟨fun q => nofun, fun w' => nofun⟩

theorem walk_inv {fs0 : FS} (hc : Closed fs0) {target : Path} (ht : isPrefix dest target = true) {last : String}
    (hl2 : (last == "..") = false) {todo : List String} {w : Walk} (hdd : ".." ∉ todo)
    (inv : WalkInv dest fs0 target last w todo) :
    match todo.foldlM (walkStep dest) w with
    | Except.ok w' => WalkInv dest fs0 target last w' []
    | Except.error e => ∀ q, e ≠ WalkErr.escaped q := by
  induction todo generalizing w with
  | nil => exact inv
  | cons c todo ih =>
    obtain ⟨hesc, hok⟩ := walkStep_inv hc ht hl2 hdd inv
    rw [List.foldlM_cons]
    cases hs : walkStep dest w c with
    | error e => exact fun q he => hesc q (he ▸ hs)
    | ok w1 => exact ih (fun hm => hdd (List.mem_cons_of_mem _ hm)) (hok w1 hs)

/-! ### `targetpath.rstrip("/")`: the empty components a name ends with do not matter -/

theorem trimEmpty_spec (cs : List String) : ∃ k, cs = trimEmpty cs ++ List.replicate k "" := by
  fun_induction trimEmpty cs
  · exact ⟨0, rfl⟩
  · next hr hc ih =>
    obtain ⟨k, hk⟩ := ih
    exact ⟨k + 1, by rw [hk, hr, beq_iff_eq.mp hc]; rfl⟩
  · next hr _ ih =>
    obtain ⟨k, hk⟩ := ih
    exact ⟨k, by rw [hk, hr]; rfl⟩
  · next ih =>
    obtain ⟨k, hk⟩ := ih
    exact ⟨k, congrArg _ hk⟩

theorem trimEmpty_subset {cs : List String} {c : String} (h : c ∈ trimEmpty cs) : c ∈ cs := by
  obtain ⟨k, hk⟩ := trimEmpty_spec cs
  rw [hk]
  exact List.mem_append_left _ h

theorem trimEmpty_plain {cs : List String} (h : ∀ c ∈ cs, c ≠ "") : trimEmpty cs = cs := by
  obtain ⟨k, hk⟩ := trimEmpty_spec cs
  cases k with
  | zero => simpa using hk.symm
  | succ k => exact absurd rfl (h "" (by rw [hk]; simp [List.replicate_succ]))

theorem realpath_trimEmpty {n : Nat} {cs : List String} {t : Path}
    (h : realpath dest fs n cur cs = some t) : realpath dest fs n cur (trimEmpty cs) = some t := by
  obtain ⟨k, hk⟩ := trimEmpty_spec cs
  rw [hk] at h
  exact realpath_drop_trailing h

/-! ### the tree stays a tree -/

theorem closed_setNode (hc : Closed fs) {k : Path} (hk : ∀ p x, p ++ x = k → x ≠ [] → lookup fs p ≠ none) (n : Node) :
    Closed (setNode fs k n) := by
  intro p x hp
  have hpk : p ≠ k := by
    intro e; subst e
    by_cases he : p = []
    · subst he; rw [lookup_nil] at hp; cases hp
    · rw [lookup_setNode_self he] at hp; cases hp
  rw [lookup_setNode_ne hpk] at hp
  by_cases e : p ++ x = k
  · exact absurd hp (hk p x e (fun hx => hpk (by simpa [hx] using e)))
  · rw [lookup_setNode_ne e]; exact hc p x hp

theorem closed_setNode_existing {fs : FS} (hc : Closed fs) {k : Path} (hk : lookup fs k ≠ none) (n : Node) :
    Closed (setNode fs k n) :=
  closed_setNode hc (fun p x (e : p ++ x = k) _ hp => hk (e ▸ hc p x hp)) n

theorem closed_setNode_new (hc : Closed fs) {pr : Path} {l : String} (hpar : lookup fs pr ≠ none) (n : Node) :
    Closed (setNode fs (pr ++ [l]) n) := by
  refine closed_setNode hc (fun p x e hx hp => hpar ?_) n
  -- p is a proper prefix of pr ++ [l], hence a prefix of pr: pr would not exist
  have h1 : (p ++ x).dropLast = (pr ++ [l]).dropLast := by rw [e]
  rw [List.dropLast_append_of_ne_nil hx, List.dropLast_concat] at h1
  exact h1 ▸ hc p x.dropLast hp

theorem closed_write (hc : Closed fs) {l : String} (hd : isDirAt dest fs cur = true)
    (hs : strictInside dest (cur ++ [l]) = true) (n : Node) : Closed (setNode fs (rel dest (cur ++ [l])) n) := by
  -- dest is a prefix of `cur`: it is one of `cur ++ [l]`, and not that path itself
  have hp : isPrefix dest cur = true := by
    refine (isPrefix_concat_cases (strictInside_isPrefix hs)).resolve_left (fun e => ?_)
    simp only [strictInside, Bool.and_eq_true, decide_eq_true_eq] at hs
    rw [← e] at hs
    omega
  rw [rel_append_of_prefix hp]
  refine closed_setNode_new hc (fun h => ?_) n
  rw [isDirAt, if_pos hp, h] at hd
  cases hd

theorem writeAt_inside {q : Path} {n : Node} (h : strictInside dest q = true) :
    writeAt dest fs q n = Verdict.ok (setNode fs (rel dest q) n) := by
  simp [writeAt, h]

theorem writeAt_not_unmodelled {q : Path} {n : Node} : writeAt dest fs q n ≠ Verdict.unmodelled := by
  unfold writeAt; split <;> simp

theorem writeAt_closed (hc : Closed fs) {l : String} (hd : isDirAt dest fs cur = true)
    {n : Node} {fs' : FS} (h : writeAt dest fs (cur ++ [l]) n = Verdict.ok fs' ∨ writeAt dest fs (cur ++ [l]) n = Verdict.skipped fs') :
    Closed fs' := by
  unfold writeAt at h
  split at h
  · rename_i hs
    rcases h with h | h <;> cases h
    exact closed_write hc hd hs n
  · rcases h with h | h <;> cases h

theorem walkStep_closed {w : Walk} (hc : Closed w.fs) (hd : isDirAt dest w.fs w.cur = true) {c : String} (hcd : c ≠ "..")
    (w' : Walk) (h : walkStep dest w c = Except.ok w') : Closed w'.fs ∧ isDirAt dest w'.fs w'.cur = true := by
  revert h
  -- the branches that succeed: nothing to do, `..`, a directory made, a directory entered, a link to a directory followed
  fun_cases walkStep dest w c <;> intro h <;> cases h
  · exact ⟨hc, hd⟩
  · exact absurd (eq_of_beq ‹_›) hcd
  · next hs =>
    refine ⟨closed_write hc hd hs _, ?_⟩
    unfold isDirAt
    rw [if_pos (strictInside_isPrefix hs), lookup_setNode_self (strictInside_ne_nil hs)]
    rfl
  · exact ⟨hc, isDirAt_iff.mpr ‹_›⟩
  · exact ⟨hc, ‹_›⟩

theorem walk_closed {todo : List String} {w w' : Walk} (hdd : ".." ∉ todo) (hc : Closed w.fs)
    (hd : isDirAt dest w.fs w.cur = true) (h : todo.foldlM (walkStep dest) w = Except.ok w') :
    Closed w'.fs ∧ isDirAt dest w'.fs w'.cur = true := by
  induction todo generalizing w with
  | nil => cases h; exact ⟨hc, hd⟩
  | cons c todo ih =>
    rw [List.foldlM_cons] at h
    cases hs : walkStep dest w c with
    | error e => rw [hs] at h; cases h
    | ok w1 =>
      rw [hs] at h
      obtain ⟨hc1, hd1⟩ := walkStep_closed hc hd (fun e => hdd (by simp [e])) w1 hs
      exact ih (fun hm => hdd (List.mem_cons_of_mem _ hm)) hc1 hd1 h

theorem walkUpper_closed (hc : Closed fs) {dl : List String} (hdd : ".." ∉ dl) {w : Walk}
    (h : walkUpper dest fs dl = Except.ok w) : Closed w.fs := by
  unfold walkUpper at h
  cases hk : kresolve dest fs FUEL dest dl with
  | some p => rw [hk] at h; cases h; exact hc
  | none => rw [hk] at h; exact (walk_closed (w := ⟨fs, dest, false⟩) hdd hc (isDirAt_iff.mpr (existsAbs_dest dest fs)) h).1

/-! ### placing a vetted member -/

/-- what `groundOf … = Ground.free` says of the place `cur/last` (`groundOf_free_iff`) -/
structure FreeGround (dest : Path) (fs : FS) (cur : Path) (last : String) : Prop where
  parent : isDirAt dest fs cur = true
  name : Plain last
  notDir : existsAbs dest fs (cur ++ [last]) ≠ some Node.dir

theorem FreeGround.landing {last : String} (hf : FreeGround dest fs cur last) : Landing dest fs cur [last] (cur ++ [last]) :=
  ⟨⟨cur, last, rfl, hf.parent⟩, hf.notDir, fun hex => ⟨2, by
    rw [realpath_step_plain hf.name fun t ht => by rw [nodeAt_link_iff, hex] at ht; cases ht]
    rfl⟩⟩

/-- the verdicts that placing one entry at `cur/last` in the tree `fs` can end in: every entry is made by `writeAt` at a `Landing`,
  `cur/last` itself or where `open` lands through a link standing there; `S` is the condition under which a copy fallback would
  have to make a special file -/
inductive Placed (dest : Path) (fs : FS) (cur : Path) (last : String) (S : Prop) : Verdict → Prop
  | refused (why : String) : Placed dest fs cur last S (Verdict.filterError why)
  | osError (why : String) : Placed dest fs cur last S (Verdict.osError fs why)
  | skipped : Placed dest fs cur last S (Verdict.skipped fs)
  | kept : Placed dest fs cur last S (Verdict.ok fs)
  | wrote (q : Path) (n : Node) : Landing dest fs cur [last] q → Placed dest fs cur last S (writeAt dest fs q n)
  | unmodelled : S → Placed dest fs cur last S Verdict.unmodelled

variable {last : String} {S : Prop} {v : Verdict}

theorem Placed.mono {S' : Prop} (h : S → S')
    (hp : Placed dest fs cur last S v) : Placed dest fs cur last S' v := by
  cases hp with
  | unmodelled hs => exact .unmodelled (h hs)
  | _ => constructor <;> assumption

theorem placePayload_placed (hf : FreeGround dest fs cur last)
    {kind : Kind} (hk : kind ≠ Kind.hard ∧ kind ≠ Kind.special) {content : Nat} {linkname : String} :
    Placed dest fs cur last S (placePayload dest fs kind content linkname cur last) := by
  unfold placePayload
  simp only [(plain_iff.mp hf.name).1, (plain_iff.mp hf.name).2, Bool.false_eq_true, if_false, Bool.or_false]
  cases kind with
  | dir =>
    dsimp only
    cases existsAbs dest fs (cur ++ [last]) with
    | none => exact .wrote _ _ hf.landing
    | some nd => exact .kept
  | file =>
    dsimp only
    cases hex : existsAbs dest fs (cur ++ [last]) with
    | none => exact .wrote _ _ hf.landing
    | some nd =>
      cases nd with
      | file k => exact .wrote _ _ hf.landing
      | dir => exact .osError _
      | link t =>
        dsimp only
        cases hk : kopen dest fs FUEL cur [last] with
        | error why => exact .osError why
        | ok q => exact .wrote q _ (kopen_ok hk)
  | sym =>
    dsimp only
    cases hex : existsAbs dest fs (cur ++ [last]) with
    | none => exact .wrote _ _ hf.landing
    | some nd =>
      cases nd with
      | file k => exact .wrote _ _ hf.landing
      | dir => exact .osError _
      | link t => exact .wrote _ _ hf.landing
  | hard => exact absurd rfl hk.1
  | special => exact absurd rfl hk.2

theorem findBefore_lt {all : List Member} {b : Nat} {key : Nat × List String} {k : Nat}
    (h : findBefore all b key = some k) : k < b ∧ k < all.length := by
  unfold findBefore at h
  have hm := List.mem_of_find?_eq_some h
  rw [List.mem_reverse, List.mem_range] at hm
  exact Nat.lt_min.mp hm

def SpecialBefore (all : List Member) (bound : Nat) : Prop := ∃ j e, j < bound ∧ all[j]? = some e ∧ e.kind = Kind.special

/-- the copy fallback of `makelink` extracts other members at the SAME place; with the ground free it only ever goes back in the
  archive -/
theorem chain_placed {all : List Member} {g : Ground}
    (hg : g = Ground.free → FreeGround dest fs cur last) {fuel j : Nat} (hj : j < all.length) :
    Placed dest fs cur last (g = Ground.free ∧ SpecialBefore all (j + 1)) (chain dest fs all cur last g fuel j) := by
  -- out of fuel; no such member; then the member's kind: a hard link, a symbolic link, a file, a directory, a special file
  fun_induction chain dest fs all cur last g fuel j
  · exact .osError _
  · next h => rw [List.getElem?_eq_getElem hj] at h; cases h
  · exact .skipped
  · next hf ih =>
    have := findBefore_lt hf
    exact (ih this.2).mono fun ⟨hfree, k', e, hlt, he⟩ => ⟨hfree, k', e, by omega, he⟩
  · next hfree => exact placePayload_placed (hg hfree) (by decide)
  · exact .skipped
  · next hf hnf ih => exact (ih (findBefore_lt hf).2).mono fun h => absurd h.1 hnf
  · next hfree => exact placePayload_placed (hg hfree) (by decide)
  · exact .osError _
  · exact .osError _
  · next hfree => exact placePayload_placed (hg hfree) (by decide)
  · exact .kept
  · exact .osError _
  · next he hk hfree => exact .unmodelled ⟨hfree, _, _, Nat.lt_succ_self _, he, hk⟩
  · exact .osError _
  · exact .osError _

theorem hereOf_plain (hc : Plain last) : hereOf cur last = cur ++ [last] := by
  simp [hereOf, plain_iff.mp hc]

theorem groundOf_free_iff :
    groundOf dest fs cur last (isDirAt dest fs cur) = Ground.free ↔ FreeGround dest fs cur last := by
  unfold groundOf
  constructor
  · intro h
    by_cases hd : isDirAt dest fs cur = true
    · by_cases hl : (last == "" || last == "." || last == "..") = true
      · simp [hd, hl] at h
      · have hpl := plain_iff_three.mpr (Bool.eq_false_iff.mpr hl)
        refine ⟨hd, hpl, fun hex => ?_⟩
        simp [hd, hl, hereOf_plain hpl, hex] at h
    · simp [hd] at h
  · intro hf
    simp [hf.parent, plain_iff_three.mp hf.name, hereOf_plain hf.name, hf.notDir]

theorem placeFinal_placed (dest : Path) (fs : FS) (arch : Arch) (m : Member) (cur : Path) (last : String) :
    Placed dest fs cur last (SpecialBefore arch.all arch.pos) (placeFinal dest fs arch m cur last (isDirAt dest fs cur)) := by
  have fallback : ∀ {k}, k < arch.all.length → (groundOf dest fs cur last (isDirAt dest fs cur) = Ground.free → k < arch.pos) →
      Placed dest fs cur last (SpecialBefore arch.all arch.pos)
        (chain dest fs arch.all cur last (groundOf dest fs cur last (isDirAt dest fs cur)) (arch.all.length + 1) k) :=
    fun hk hpos => (chain_placed groundOf_free_iff.mp hk).mono
      fun ⟨hg, k', e, hlt, he⟩ => ⟨k', e, by have := hpos hg; omega, he⟩
  -- a special file; a hard link (nothing to link to, or something); a symbolic link; a file; a directory
  fun_cases placeFinal dest fs arch m cur last (isDirAt dest fs cur)
  · exact .refused _
  · exact .osError _
  · next hf => exact fallback (findBefore_lt hf).2 fun _ => (findBefore_lt hf).1
  · next hcond =>
    simp only [Bool.and_eq_true, beq_iff_eq] at hcond
    have hfree := groundOf_free_iff.mp hcond.1.1
    show Placed dest fs cur last _ (writeAt dest fs (hereOf cur last) _)
    rw [hereOf_plain hfree.name]
    exact .wrote _ _ hfree.landing
  · exact .skipped
  · next hf => exact fallback (findBefore_lt hf).2 fun _ => (findBefore_lt hf).1
  · next hg => exact placePayload_placed (groundOf_free_iff.mp hg) (by decide)
  · exact .skipped
  · next hf hg => exact fallback (findBefore_lt hf).2 fun h => (hg h).elim
  · next hg => exact placePayload_placed (groundOf_free_iff.mp hg) (by decide)
  · exact .osError _
  · exact .osError _
  · next hg => exact placePayload_placed (groundOf_free_iff.mp hg) (by decide)
  · exact .kept
  · exact .osError _

theorem placeFinal_file {arch : Arch} {m : Member} {d : Bool} (hk : m.kind = Kind.file)
    (hg : groundOf dest fs cur last d = Ground.free) :
    placeFinal dest fs arch m cur last d = placePayload dest fs Kind.file m.content m.linkname cur last := by
  unfold placeFinal
  dsimp only
  rw [hk, hg]

theorem placePayload_file (hf : FreeGround dest fs cur last)
    (hnl : ∀ t, existsAbs dest fs (cur ++ [last]) ≠ some (Node.link t)) {content : Nat} {linkname : String} :
    placePayload dest fs Kind.file content linkname cur last = writeAt dest fs (cur ++ [last]) (Node.file content) := by
  unfold placePayload
  simp only [(plain_iff.mp hf.name).1, (plain_iff.mp hf.name).2, Bool.false_eq_true, if_false, Bool.or_false]
  cases hex : existsAbs dest fs (cur ++ [last]) with
  | none => rfl
  | some nd =>
    cases nd with
    | file k => rfl
    | dir => exact absurd hex hf.notDir
    | link t => exact absurd hex (hnl t)

theorem Placed.not_escaped (hp : Placed dest fs cur last S v) {target : Path} (hv : Vetted dest fs cur [last] target)
    (ht : isPrefix dest target = true) (q : Path) : v ≠ Verdict.escaped q := by
  cases hp with
  | wrote q' n hl =>
    have hk : known dest q' := by
      cases hex : existsAbs dest fs q' with
      | none =>
        -- nothing there: the entry is created at what `realpath` gives, the vetted target
        obtain ⟨m, hm⟩ := hl.resolved hex
        exact Or.inl (hv _ _ hm ▸ ht)
      | some nd => exact existsAbs_known hex
    rw [writeAt_inside (strictInside_of_not_dir hk hl.notDir)]; simp
  | _ => simp

theorem Placed.closed (hp : Placed dest fs cur last S v) (hc : Closed fs) {fs' : FS}
    (h : v = Verdict.ok fs' ∨ v = Verdict.skipped fs') : Closed fs' := by
  cases hp with
  | wrote q n hl =>
    obtain ⟨p, l, rfl, hd⟩ := hl.parent
    exact writeAt_closed hc hd h
  -- every other verdict carries `fs` itself, or no tree
  | _ => rcases h with h | h <;> cases h <;> exact hc

theorem Placed.not_unmodelled (hp : Placed dest fs cur last S v) (hS : ¬S) : v ≠ Verdict.unmodelled := by
  cases hp with
  | wrote q n hl => exact writeAt_not_unmodelled
  | unmodelled hs => exact absurd hs hS
  | _ => simp

theorem placeMember_not_escaped (hc : Closed fs) {arch : Arch} {m : Member}
    {comps : List String} {target : Path} (hr : realpath dest fs FUEL dest comps = some target)
    (ht : isPrefix dest target = true) (hdd : ".." ∉ comps) :
    ∀ q, placeMember dest fs arch m comps ≠ Verdict.escaped q := by
  intro q
  -- the parent components and the last one (the empty name has the empty last component)
  have hv0 : Vetted dest fs dest (comps.dropLast ++ [comps.getLast?.getD ""]) target := by
    obtain ⟨k, hk⟩ : ∃ k, comps.dropLast ++ [comps.getLast?.getD ""] = comps ++ List.replicate k "" := by
      by_cases hne : comps = []
      · exact ⟨1, by rw [hne]; rfl⟩
      · exact ⟨0, by rw [← dropLast_getLast hne]; simp⟩
    intro j t hj
    rw [hk] at hj
    exact realpath_det (realpath_drop_trailing hj) hr
  have hdd1 : ".." ∉ comps.dropLast := fun hm => hdd (List.dropLast_subset _ hm)
  have hl2 : (comps.getLast?.getD "" == "..") = false := by
    cases hgl : comps.getLast? with
    | none => rfl
    | some l => exact beq_eq_false_iff_ne.mpr fun e => hdd (e ▸ List.mem_of_getLast? hgl)
  unfold placeMember walkUpper
  generalize comps.dropLast = dl at hv0 hdd1 ⊢
  generalize comps.getLast?.getD "" = last at hv0 hl2 ⊢
  cases hkp : kresolve dest fs FUEL dest dl with
  | some p =>
    -- the parent exists: the kernel's walk of it is `realpath`'s
    exact (placeFinal_placed dest fs arch m p last).not_escaped (hv0.after (kresolve_realpath _ _ _ _ _ _ hkp)) ht q
  | none =>
    -- `os.makedirs`: the invariant of the walk, from its start to where it ends
    have hw := walk_inv (w := ⟨fs, dest, false⟩) hc ht hl2 hdd1
      ⟨fun _ _ => Iff.rfl, fun _ h => h, Or.inl (isPrefix_refl dest), nofun, hv0⟩
    dsimp only
    unfold walkParent
    generalize dl.foldlM (walkStep dest) ⟨fs, dest, false⟩ = r at hw ⊢
    cases r with
    | error e =>
      cases e with
      | os fs' why => simp
      | escaped p' => exact absurd rfl (hw p')
    | ok w =>
      exact (placeFinal_placed dest w.fs arch m w.cur last).not_escaped
        (fun j t hj => hw.vetted j t (by rw [← realpath_congr hw.links]; exact hj)) ht q

theorem placeMember_closed (hc : Closed fs) {arch : Arch} {m : Member} {comps : List String}
    (hdd : ".." ∉ comps) {fs' : FS}
    (h : placeMember dest fs arch m comps = Verdict.ok fs' ∨ placeMember dest fs arch m comps = Verdict.skipped fs') : Closed fs' := by
  unfold placeMember at h
  cases hwu : walkUpper dest fs comps.dropLast with
  | error e => rw [hwu] at h; cases e <;> rcases h with h | h <;> cases h
  | ok w =>
    rw [hwu] at h
    exact (placeFinal_placed dest w.fs arch m w.cur _).closed (walkUpper_closed hc (fun hm => hdd (List.dropLast_subset _ hm)) hwu) h

theorem placeMember_not_unmodelled {arch : Arch} (hns : ¬SpecialBefore arch.all arch.pos) (m : Member)
    (comps : List String) : placeMember dest fs arch m comps ≠ Verdict.unmodelled := by
  unfold placeMember
  cases walkUpper dest fs comps.dropLast with
  | error e => cases e <;> simp
  | ok w => exact (placeFinal_placed dest w.fs arch m w.cur _).not_unmodelled hns

/-! ### one member -/

/-- what the guards at the top of `extractMember` have established of a member they let through -/
structure Admitted (dest : Path) (fs : FS) (m : Member) (target : Path) : Prop where
  rawName : ".." ∉ split m.name
  name : ".." ∉ split (stripSlashes m.name)
  resolves : realpath dest fs FUEL dest (split (stripSlashes m.name)) = some target
  inside : isPrefix dest target = true
  notSpecial : m.kind ≠ Kind.special
  link : m.kind = Kind.sym ∨ m.kind = Kind.hard →
    m.linkname.startsWith "/" = false ∧
    ∃ t, realpath dest fs FUEL dest
        ((if m.kind = Kind.sym then (split (stripSlashes m.name)).dropLast else []) ++ split m.linkname) = some t ∧
      isPrefix dest t = true

theorem extractMember_cases (dest : Path) (fs : FS) (arch : Arch) (m : Member) :
    extractMember dest fs arch m = Verdict.osError fs "ELOOP" ∨
    (∃ why, extractMember dest fs arch m = Verdict.filterError why) ∨ ∃ target, Admitted dest fs m target := by
  fun_cases extractMember dest fs arch m
  · exact .inr (.inl ⟨_, rfl⟩)
  · exact .inl rfl
  · exact .inr (.inl ⟨_, rfl⟩)
  · exact .inr (.inl ⟨_, rfl⟩)
  · exact .inl rfl
  · exact .inr (.inl ⟨_, rfl⟩)
  · next hg target ht hp hs linkCheck hlc =>
    simp only [Bool.or_eq_true, List.contains_iff_mem, not_or] at hg
    refine .inr (.inr ⟨target, hg.1, hg.2, ht, by simpa using hp, by simpa using hs, fun hk => ?_⟩)
    simp only [linkCheck] at hlc
    rw [if_pos (by simpa using hk)] at hlc
    by_cases hsl : m.linkname.startsWith "/" = true
    · rw [if_pos hsl] at hlc; cases hlc
    rw [if_neg hsl] at hlc
    refine ⟨by simpa using hsl, ?_⟩
    split at hlc
    · cases hlc
    · next t hrt =>
      split at hlc
      · next hpt => exact ⟨t, by simpa using hrt, hpt⟩
      · cases hlc

theorem extractMember_of_admitted {arch : Arch} {m : Member} {target : Path} (ha : Admitted dest fs m target) :
    extractMember dest fs arch m = placeMember dest fs arch m (trimEmpty (split (stripSlashes m.name))) := by
  unfold extractMember
  dsimp only
  rw [if_neg (by simp [ha.rawName, ha.name]), ha.resolves]
  dsimp only
  rw [if_neg (by simp [ha.inside]), if_neg (by simpa using ha.notSpecial)]
  by_cases hk : m.kind = Kind.sym ∨ m.kind = Kind.hard
  · obtain ⟨hsl, t, hrt, hpt⟩ := ha.link hk
    have hrt' : realpath dest fs FUEL dest
        ((if (m.kind == Kind.sym) = true then (split (stripSlashes m.name)).dropLast else []) ++ split m.linkname) = some t := by
      simpa using hrt
    rw [if_pos (by simpa using hk), if_neg (by simp [hsl]), hrt']
    dsimp only
    rw [if_pos hpt]
  · rw [if_neg (by simpa using hk)]

theorem extractMember_not_escaped (hc : Closed fs) (arch : Arch) (m : Member) :
    ∀ q, extractMember dest fs arch m ≠ Verdict.escaped q := by
  intro q
  rcases extractMember_cases dest fs arch m with h | ⟨why, h⟩ | ⟨target, ha⟩
  · rw [h]; simp
  · rw [h]; simp
  · rw [extractMember_of_admitted ha]
    exact placeMember_not_escaped hc (realpath_trimEmpty ha.resolves) ha.inside (fun hm => ha.name (trimEmpty_subset hm)) q

theorem extractMember_admitted {arch : Arch} {m : Member} {fs' : FS}
    (h : extractMember dest fs arch m = Verdict.ok fs' ∨ extractMember dest fs arch m = Verdict.skipped fs') :
    ∃ target, Admitted dest fs m target := by
  rcases extractMember_cases dest fs arch m with h' | ⟨why, h'⟩ | ha
  · rw [h'] at h; rcases h with h | h <;> cases h
  · rw [h'] at h; rcases h with h | h <;> cases h
  · exact ha

theorem extractMember_closed (hc : Closed fs) {arch : Arch} {m : Member} {fs' : FS}
    (h : extractMember dest fs arch m = Verdict.ok fs' ∨ extractMember dest fs arch m = Verdict.skipped fs') : Closed fs' := by
  obtain ⟨_, ha⟩ := extractMember_admitted h
  rw [extractMember_of_admitted ha] at h
  exact placeMember_closed hc (fun hm => ha.name (trimEmpty_subset hm)) h

theorem untarFrom_never_escapes (ms : List Member) (fs : FS) (arch : Arch) (hc : Closed fs) (q : Path) :
    (untarFrom dest fs arch ms).2 ≠ some (Stop.escaped q) := by
  fun_induction untarFrom dest fs arch ms
  · simp
  · next hv ih => exact ih (extractMember_closed hc (Or.inl hv))
  · next hv ih => exact ih (extractMember_closed hc (Or.inr hv))
  · simp
  · simp
  · simp
  · next hv => exact absurd hv (extractMember_not_escaped hc _ _ _)

/-! ### the model never gives up: `unmodelled` is unreachable from `untar` -/

theorem extractMember_not_unmodelled {arch : Arch} (hns : ¬SpecialBefore arch.all arch.pos) (m : Member) :
    extractMember dest fs arch m ≠ Verdict.unmodelled := by
  rcases extractMember_cases dest fs arch m with h | ⟨why, h⟩ | ⟨target, ha⟩
  · rw [h]; simp
  · rw [h]; simp
  · rw [extractMember_of_admitted ha]
    exact placeMember_not_unmodelled hns m _

theorem next_not_specialBefore {arch : Arch} {m : Member} {ms : List Member} (hd : arch.all.drop arch.pos = m :: ms)
    (hns : ¬SpecialBefore arch.all arch.pos) (hm : m.kind ≠ Kind.special) :
    arch.next.all.drop arch.next.pos = ms ∧ ¬SpecialBefore arch.next.all arch.next.pos := by
  refine ⟨by rw [show arch.next.pos = arch.pos + 1 from rfl, ← List.drop_drop]; exact congrArg (List.drop 1) hd, ?_⟩
  rintro ⟨j, e, hj, he, hk⟩
  by_cases hjp : j = arch.pos
  · have hm' : arch.all[arch.pos]? = some m := by simpa [List.head?_drop] using congrArg List.head? hd
    rw [hjp] at he
    exact hm (Option.some.inj (hm'.symm.trans he) ▸ hk)
  · exact hns ⟨j, e, Nat.lt_of_le_of_ne (Nat.le_of_lt_succ hj) hjp, he, hk⟩

/-- a special member stops the extraction, so no special file ever stands before the member at hand -/
theorem untarFrom_never_unmodelled (ms : List Member) (fs : FS) (arch : Arch)
    (hd : arch.all.drop arch.pos = ms) (hns : ¬SpecialBefore arch.all arch.pos) :
    (untarFrom dest fs arch ms).2 ≠ some Stop.unmodelled := by
  fun_induction untarFrom dest fs arch ms
  · simp
  · next hv ih =>
    obtain ⟨_, ha⟩ := extractMember_admitted (Or.inl hv)
    exact (next_not_specialBefore hd hns ha.notSpecial).elim ih
  · next hv ih =>
    obtain ⟨_, ha⟩ := extractMember_admitted (Or.inr hv)
    exact (next_not_specialBefore hd hns ha.notSpecial).elim ih
  · simp
  · simp
  · next hv => exact absurd hv (extractMember_not_unmodelled hns _)
  · simp

/-! ### benign members are extracted (link-free trees, plain names) -/

theorem nodeAt_not_link_of_linkfree (h : LinkFree fs) {p : Path} (t : String) :
    nodeAt dest fs p ≠ some (Node.link t) := by
  unfold nodeAt
  split
  · exact lookup_not_link h
  · simp

theorem realpath_plain (hl : LinkFree fs) {cs : List String} (hp : ∀ c ∈ cs, Plain c)
    (hlen : cs.length < FUEL) (base : Path) : realpath dest fs FUEL base cs = some (base ++ cs) := by
  have hdd : ".." ∉ cs := fun hm => (hp _ hm).2.2 rfl
  have := realpath_lexical_some (dest := dest) cs base (fun x _ l => nodeAt_not_link_of_linkfree hl l) hdd
  rw [List.filter_eq_self.mpr fun c hc => by simp [(plain_iff.mp (hp c hc)).1]] at this
  exact realpath_mono_le (by omega) this

theorem linkFree_setNode (h : LinkFree fs) {p : Path} {n : Node} (hn : ∀ t, n ≠ Node.link t) : LinkFree (setNode fs p n) := by
  intro e he t
  unfold setNode at he
  split at he
  · rw [List.mem_map] at he
    obtain ⟨e0, he0, rfl⟩ := he
    split
    · exact hn t
    · exact h e0 he0 t
  · rcases List.mem_append.mp he with he | he
    · exact h e he t
    · simp at he; subst he; exact hn t

/-- `fs'` is `fs` with `n` at `path` and a directory at every path above it: what working along `path` leaves -/
structure Along (fs fs' : FS) (path : Path) (n : Node) : Prop where
  off : ∀ q, isPrefix q path = false → lookup fs' q = lookup fs q
  above : ∀ q, isPrefix q path = true → q ≠ path → lookup fs' q = some Node.dir
  here : lookup fs' path = some n

theorem Along.step {fs1 fs2 : FS} {pre : Path} {c : String} {n : Node} (h : Along fs fs1 pre Node.dir)
    (hsame : ∀ q, q ≠ pre ++ [c] → lookup fs2 q = lookup fs1 q) (hn : lookup fs2 (pre ++ [c]) = some n) :
    Along fs fs2 (pre ++ [c]) n := by
  refine ⟨fun q hq => ?_, fun q hq hne => ?_, hn⟩
  · rw [hsame q fun e => by rw [e, isPrefix_refl] at hq; cases hq]
    exact h.off q (isPrefix_concat_false hq)
  · rw [hsame q hne]
    by_cases e : q = pre
    · rw [e]; exact h.here
    · exact h.above q ((isPrefix_concat_cases hq).resolve_left hne) e

/-- the state of the `os.makedirs` walk along a plain path `pre` in a link-free tree with no file in the way -/
structure BenignWalk (dest : Path) (fs : FS) (w : Walk) (pre : List String) : Prop where
  cur : w.cur = dest ++ pre
  linkFree : LinkFree w.fs
  tree : Along fs w.fs pre Node.dir

theorem benign_walkStep {w : Walk} {pre : List String} {c : String} (hc : Plain c)
    (inv : BenignWalk dest fs w pre) (hnf : ∀ k, lookup fs (pre ++ [c]) ≠ some (Node.file k)) :
    ∃ w', walkStep dest w c = Except.ok w' ∧ BenignWalk dest fs w' (pre ++ [c]) := by
  have hlit : w.cur ++ [c] = dest ++ (pre ++ [c]) := by rw [inv.cur, List.append_assoc]
  have hfr := inv.tree.off _ (isPrefix_concat_self pre c)
  rw [walkStep_plain hc, hlit, existsAbs_below]
  cases hlk : lookup w.fs (pre ++ [c]) with
  | none =>
    dsimp only
    have hs : strictInside dest (dest ++ (pre ++ [c])) = true := by simp [strictInside, isPrefix_append]
    rw [if_pos hs, rel_append]
    exact ⟨_, rfl, rfl, linkFree_setNode inv.linkFree (by simp),
      inv.tree.step (fun _ => lookup_setNode_ne) (lookup_setNode_self (by simp))⟩
  | some nd =>
    cases nd with
    | file k => exact absurd (hfr ▸ hlk) (hnf k)
    | link t => exact absurd hlk (lookup_not_link inv.linkFree)
    | dir => exact ⟨_, rfl, rfl, inv.linkFree, inv.tree.step (fun _ _ => rfl) hlk⟩

theorem benign_walk {dl : List String} (hpl : ∀ c ∈ dl, Plain c)
    (hnf : ∀ q, isPrefix q dl = true → q ≠ [] → ∀ k, lookup fs q ≠ some (Node.file k))
    {todo : List String} {w : Walk} {pre : List String} (hdl : pre ++ todo = dl) (inv : BenignWalk dest fs w pre) :
    ∃ w', todo.foldlM (walkStep dest) w = Except.ok w' ∧ BenignWalk dest fs w' dl := by
  induction todo generalizing w pre with
  | nil => exact ⟨w, rfl, by simpa [← hdl] using inv⟩
  | cons c todo ih =>
    have hdl' : (pre ++ [c]) ++ todo = dl := by simp [← hdl]
    obtain ⟨w1, hw1, inv1⟩ := benign_walkStep (hpl c (by simp [← hdl])) inv (hnf _ (hdl' ▸ isPrefix_append _ _) (by simp))
    obtain ⟨w2, hw2, inv2⟩ := ih hdl' inv1
    exact ⟨w2, by rw [List.foldlM_cons, hw1]; exact hw2, inv2⟩

theorem kresolve_benign {dl : List String} (hpl : ∀ c ∈ dl, Plain c)
    (hnf : ∀ q, isPrefix q dl = true → q ≠ [] → ∀ k, lookup fs q ≠ some (Node.file k))
    {cs : List String} {n : Nat} {pre : List String} {p : Path} (hdl : pre ++ cs = dl)
    (inv : BenignWalk dest fs ⟨fs, dest ++ pre, false⟩ pre) (h : kresolve dest fs n (dest ++ pre) cs = some p) :
    BenignWalk dest fs ⟨fs, p, false⟩ dl := by
  induction cs generalizing n pre with
  | nil =>
    cases n with
    | zero => simp [kresolve] at h
    | succ n => exact Option.some.inj h ▸ (by simpa [← hdl] using inv)
  | cons c rest ih =>
    have hdl' : (pre ++ [c]) ++ rest = dl := by simp [← hdl]
    obtain ⟨h1, h2⟩ := plain_iff.mp (hpl c (by simp [← hdl]))
    cases n with
    | zero => simp [kresolve] at h
    | succ n =>
      rw [kresolve.eq_3] at h
      dsimp only at h
      have hin : isPrefix dest (dest ++ pre ++ [c]) = true := by rw [List.append_assoc]; exact isPrefix_append _ _
      have hdrop : List.drop dest.length (dest ++ pre ++ [c]) = pre ++ [c] := by simp
      rw [if_neg (Bool.eq_false_iff.mp h1), if_neg (Bool.eq_false_iff.mp h2), if_neg (by rw [hin]; simp), hdrop] at h
      cases hlk : lookup fs (pre ++ [c]) with
      | none => rw [hlk] at h; cases h
      | some nd =>
        cases nd with
        | link t => exact absurd hlk (lookup_not_link inv.linkFree)
        | file k => exact absurd hlk (hnf _ (hdl' ▸ isPrefix_append _ _) (by simp) k)
        | dir =>
          rw [hlk, List.append_assoc] at h
          exact ih hdl' ⟨rfl, inv.linkFree, inv.tree.step (fun _ _ => rfl) hlk⟩ h

theorem benign_walkUpper (hl : LinkFree fs) {dl : List String} (hpl : ∀ c ∈ dl, Plain c)
    (hnf : ∀ q, isPrefix q dl = true → q ≠ [] → ∀ k, lookup fs q ≠ some (Node.file k)) :
    ∃ w, walkUpper dest fs dl = Except.ok w ∧ BenignWalk dest fs w dl := by
  have inv : BenignWalk dest fs ⟨fs, dest ++ [], false⟩ [] :=
    ⟨rfl, hl, fun _ _ => rfl, fun q hq hne => absurd (List.prefix_nil.mp (isPrefix_iff.mp hq)) hne, lookup_nil fs⟩
  unfold walkUpper
  cases hkr : kresolve dest fs FUEL dest dl with
  | some p => exact ⟨_, rfl, kresolve_benign hpl hnf (pre := []) rfl inv (by simpa using hkr)⟩
  | none =>
    unfold walkParent
    simpa using benign_walk hpl hnf (pre := []) rfl inv

/-- the components a member's name is walked by -/
def pathOf (m : Member) : List String := split (stripSlashes m.name)

/-- a regular file with a plain relative name -/
def BenignFile (m : Member) : Prop :=
  m.kind = Kind.file ∧ ".." ∉ split m.name ∧ pathOf m ≠ [] ∧ (∀ c ∈ pathOf m, Plain c) ∧ (pathOf m).length < FUEL

/-- neither path is the other or lies below it -/
def Apart (a b : Member) : Prop := isPrefix (pathOf a) (pathOf b) = false ∧ isPrefix (pathOf b) (pathOf a) = false

/-- nothing in the tree is in the way of the member: no file above its place, no directory at it -/
structure Unobstructed (fs : FS) (m : Member) : Prop where
  above : ∀ x, isPrefix x (pathOf m) = true → x ≠ [] → x ≠ pathOf m → ∀ k, lookup fs x ≠ some (Node.file k)
  place : lookup fs (pathOf m) ≠ some Node.dir

theorem benign_member (hl : LinkFree fs) (arch : Arch) (m : Member) (hb : BenignFile m) (hun : Unobstructed fs m) :
    ∃ fs', extractMember dest fs arch m = Verdict.ok fs' ∧ LinkFree fs' ∧ Along fs fs' (pathOf m) (Node.file m.content) := by
  obtain ⟨hk, hn0, hne, hp, hlen⟩ := hb
  obtain ⟨hnf, htd⟩ := hun
  have hn : split (stripSlashes m.name) = pathOf m := rfl
  obtain ⟨dl, last, hcomps⟩ : ∃ dl last, pathOf m = dl ++ [last] := ⟨_, _, dropLast_getLast hne⟩
  rw [hcomps] at hn hne hp hlen hnf htd ⊢
  have hpl : Plain last := hp last (by simp)
  obtain ⟨w, hwu, inv⟩ := benign_walkUpper (dest := dest) hl (fun c hc => hp c (List.mem_append_left _ hc))
    fun q hq hq0 => hnf q (isPrefix_trans hq (isPrefix_append _ _)) hq0 fun e => by rw [e, isPrefix_concat_self] at hq; cases hq
  -- the member's place: below the directory the walk ended in, holding what it held before the walk
  have hex : existsAbs dest w.fs (w.cur ++ [last]) = lookup fs (dl ++ [last]) := by
    rw [inv.cur, List.append_assoc, existsAbs_below, inv.tree.off _ (isPrefix_concat_self dl last)]
  have hfree : FreeGround dest w.fs w.cur last :=
    ⟨by rw [inv.cur]; simp [isDirAt, isPrefix_append, rel, inv.tree.here], hpl, by rw [hex]; exact htd⟩
  have hs : strictInside dest (w.cur ++ [last]) = true := by
    rw [inv.cur, List.append_assoc]; simp [strictInside, isPrefix_append]
  have ha : Admitted dest fs m (dest ++ (dl ++ [last])) :=
    ⟨hn0, hn ▸ fun hm => (hp _ hm).2.2 rfl, by rw [hn]; exact realpath_plain hl hp hlen dest, isPrefix_append _ _,
      by rw [hk]; nofun, fun h => by rw [hk] at h; rcases h with h | h <;> cases h⟩
  refine ⟨setNode w.fs (dl ++ [last]) (Node.file m.content), ?_, linkFree_setNode inv.linkFree (by simp),
    inv.tree.step (fun _ => lookup_setNode_ne) (lookup_setNode_self hne)⟩
  rw [extractMember_of_admitted ha, hn, trimEmpty_plain (fun c hc => (hp c hc).1)]
  unfold placeMember
  rw [List.dropLast_concat, List.getLast?_concat, Option.getD_some, hwu]
  dsimp only
  rw [placeFinal_file hk (groundOf_free_iff.mpr hfree),
    placePayload_file hfree (fun t => by rw [hex]; exact lookup_not_link hl), writeAt_inside hs,
    inv.cur, List.append_assoc, rel_append]

/-- members that lie apart stay unobstructed while the others are extracted, so the whole archive goes through -/
theorem benign_untarFrom (ms : List Member) (fs : FS) (arch : Arch) (hl : LinkFree fs) (hb : ∀ m ∈ ms, BenignFile m)
    (hpw : ms.Pairwise Apart) (hun : ∀ m ∈ ms, Unobstructed fs m) :
    ∃ fs', untarFrom dest fs arch ms = (fs', none) ∧
      (∀ m ∈ ms, lookup fs' (pathOf m) = some (Node.file m.content)) ∧
      (∀ q, (∀ m ∈ ms, isPrefix q (pathOf m) = false) → lookup fs' q = lookup fs q) := by
  induction ms generalizing fs arch with
  | nil => exact ⟨fs, rfl, by simp, fun _ _ => rfl⟩
  | cons m ms ih =>
    obtain ⟨fs1, hex, hlf, hal⟩ := benign_member (dest := dest) hl arch m (hb m (by simp)) (hun m (by simp))
    have hpw' := List.pairwise_cons.mp hpw
    obtain ⟨fs', hrun, hall, hfr⟩ := ih fs1 arch.next hlf (fun m' hm' => hb m' (List.mem_cons_of_mem _ hm')) hpw'.2
      fun m' hm' => by
        -- what `m` brought lies on its own path, which is apart from that of `m'`
        obtain ⟨ha1, ha2⟩ := hpw'.1 m' hm'
        obtain ⟨habove, hplace⟩ := hun m' (List.mem_cons_of_mem _ hm')
        refine ⟨fun x hx hx0 hxm k hlk => ?_, fun hlk => hplace (hal.off _ ha2 ▸ hlk)⟩
        by_cases hpre : isPrefix x (pathOf m) = true
        · by_cases e : x = pathOf m
          · rw [e, ha1] at hx; cases hx
          · rw [hal.above x hpre e] at hlk; cases hlk
        · rw [hal.off x (by simpa using hpre)] at hlk
          exact habove x hx hx0 hxm k hlk
    refine ⟨fs', by rw [untarFrom, hex]; exact hrun, fun m' hm' => ?_, fun q hq => ?_⟩
    · rcases List.mem_cons.mp hm' with rfl | hm'
      · rw [hfr _ (fun m'' hm'' => (hpw'.1 m'' hm'').1)]; exact hal.here
      · exact hall m' hm'
    · rw [hfr q (fun m' hm' => hq m' (List.mem_cons_of_mem _ hm'))]
      exact hal.off q (hq m (by simp))
end Kapture.C18
