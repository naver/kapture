import Kapture.Props.Csv
import Kapture.Model.C01
import Kapture.Gen.SpecColumns

namespace Kapture.C01
open Kapture.Csv

/-- a token that can stand in a field: comma-free, no line break, nothing to strip (an empty token is allowed: a missing
  rotation / translation, an empty name) -/
def TokOK (t : Str) : Prop := FieldOK t

/-- an identifier / path in first position or used as a key: a non-empty token -/
def IdOK (t : Str) : Prop := FieldOK t ∧ t ≠ []

/-- the specification names some columns differently from the code's header comments -/
def columnAliases : List (String × String) :=
  [("sensor_device_id", "sensor_id"), ("rig_device_id", "rig_id"), ("x_acc", "x_accel"), ("y_acc", "y_accel"),
   ("z_acc", "z_accel")]

def unalias (c : String) : String := ((columnAliases.find? (fun a => a.1 == c)).map (·.2)).getD c

section sorting
variable {α : Type} (le : α → α → Bool)

theorem insertBy_perm (x : α) (l : List α) : (insertBy le x l).Perm (x :: l) := by
  fun_induction insertBy le x l with
  | case1 => exact .refl _
  | case2 y ys h => exact .refl _
  | case3 y ys h ih => exact (ih.cons y).trans (.swap x y ys)

theorem sortBy_perm' (l : List α) : (sortBy le l).Perm l := by
  induction l with
  | nil => exact .refl _
  | cons x xs ih => exact (insertBy_perm le x _).trans (ih.cons x)

theorem mem_sortBy (l : List α) (a : α) : a ∈ sortBy le l ↔ a ∈ l :=
  (sortBy_perm' le l).mem_iff

theorem rowOK_map_sortBy (f : α → List Str) (t : List α)
    (h : ∀ e ∈ t, RowOK (f e)) : ∀ r ∈ (sortBy le t).map f, RowOK r :=
  List.forall_mem_map.2 fun e he => h e ((mem_sortBy le t e).1 he)

theorem insertBy_map {α β : Type} (le : α → α → Bool) (le' : β → β → Bool) (f : α → β)
    (hle : ∀ a b, le' (f a) (f b) = le a b) (x : α) (l : List α) :
    insertBy le' (f x) (l.map f) = (insertBy le x l).map f := by
  induction l with
  | nil => rfl
  | cons y ys ih =>
    simp only [List.map_cons, insertBy, hle]
    split
    · rfl
    · simp [ih]

theorem sortBy_map {α β : Type} (le : α → α → Bool) (le' : β → β → Bool) (f : α → β)
    (hle : ∀ a b, le' (f a) (f b) = le a b) (l : List α) : sortBy le' (l.map f) = (sortBy le l).map f := by
  induction l with
  | nil => rfl
  | cons x xs ih =>
    show insertBy le' (f x) (sortBy le' (xs.map f)) = (insertBy le x (sortBy le xs)).map f
    rw [ih, insertBy_map le le' f hle]

end sorting

theorem rowOK_showInt (i : Int) (rest : List Str) (h : ∀ f ∈ rest, FieldOK f) : RowOK (showInt i :: rest) := by
  obtain ⟨h1, h2, h3⟩ := showInt_fieldOK i
  exact ⟨List.forall_mem_cons.2 ⟨h1, h⟩, showInt i, rest, rfl, h2, h3⟩

theorem formatLine_wf :
    (S Gen.Headers.formatLine).head? = some '#' ∧ '\n' ∉ S Gen.Headers.formatLine ∧ '\r' ∉ S Gen.Headers.formatLine := by
  rw [S, Gen.Headers.formatLine, String.toList_ofList]  -- see Props/Csv.lean
  decide

theorem headerOf_eq (file : String) : headerOf file = S "#" ∨
    ∃ e ∈ Gen.Headers.columns, headerOf file = S "# " ++ joinWith commaSpace (e.2.map S) := by
  unfold headerOf
  split
  · next e h => exact Or.inr ⟨e, List.mem_of_find?_eq_some h, rfl⟩
  · exact Or.inl rfl

theorem not_mem_S {s : String} {c : Char} {b : UInt8} (hb : b ∈ String.utf8EncodeChar c)
    (h : b ∉ s.toByteArray.data.toList) : c ∉ S s := by
  intro hc
  rw [← String.utf8Encode_toList, List.utf8Encode, List.data_toByteArray] at h
  exact h (List.mem_flatMap.2 ⟨c, hc, hb⟩)

/-- on the bytes (10 is LF, 13 is CR): the kernel encodes a string literal much faster than it decodes it into characters -/
theorem columns_bytes : ∀ e ∈ Gen.Headers.columns, ∀ c ∈ e.2,
    (10 : UInt8) ∉ c.toByteArray.data.toList ∧ (13 : UInt8) ∉ c.toByteArray.data.toList := by
  decide +kernel

theorem headerOf_wf (file : String) :
    (headerOf file).head? = some '#' ∧ '\n' ∉ headerOf file ∧ '\r' ∉ headerOf file := by
  rcases headerOf_eq file with h | ⟨e, he, h⟩
  · rw [h]
    decide
  · have hl : LineOK (headerOf file) := by
      rw [h]
      exact LineOK.append ⟨by decide, by decide⟩ (lineOK_joinWith _ _ ⟨by decide, by decide⟩
        (List.forall_mem_map.2 fun c hc => ⟨not_mem_S (c := '\n') List.mem_cons_self (columns_bytes e he c hc).1,
          not_mem_S (c := '\r') List.mem_cons_self (columns_bytes e he c hc).2⟩))
    exact ⟨by rw [h]; rfl, hl⟩

theorem mem_known_files :
    ∀ f ∈ ["trajectories.txt", "observations.txt", "sensors.txt", "rigs.txt"] ++
      (["records_camera.txt", "records_depth.txt", "records_lidar.txt"] ++
      (["records_gnss.txt", "records_accelerometer.txt", "records_gyroscope.txt", "records_magnetic.txt"] ++
      ["records_wifi.txt", "records_bluetooth.txt"])), f ∈ Gen.Headers.columns.map (·.1) := by
  decide +kernel

end Kapture.C01
