/-
  Lemmas/C17.lean — what the download phase leaves alone (`SameMarks`), when a reported status can be believed (`Justified`), one
  specification per routine carrying both, `install_spec`, the three-way case analysis of install from which every
  per-call property follows, and `Extends`, what any number of invocations does to a world, from which the properties
  of histories follow.
-/
import Kapture.Model.C17

namespace Kapture.C17

/-- a server that always reports the true size and serves the true content, honouring ranges -/
def honest (content : Bytes) : Server := fun _ r =>
  match r with
  | Req.probe => { fail := false, size := SizeAns.total content.length, body := [], abort := false }
  | Req.get none => { fail := false, size := SizeAns.absent, body := content, abort := false }
  | Req.get (some p) => { fail := false, size := SizeAns.absent, body := content.drop p, abort := false }

/-- `w'` has the same installed mark and extraction history as `w` (archive, request counter and log may differ) -/
def SameMarks (w w' : World) : Prop :=
  w'.installed = w.installed ∧ w'.extracted = w.extracted

theorem SameMarks.refl (w : World) : SameMarks w w := ⟨rfl, rfl⟩
theorem SameMarks.trans {a b c : World} (h1 : SameMarks a b) (h2 : SameMarks b c) : SameMarks a c :=
  ⟨h2.1.trans h1.1, h2.2.trans h1.2⟩

/-- a reported status can be believed in a world: `downloaded` is only claimed for a present archive with a matching
  checksum, `installed` only when the mark is set -/
def Justified (good : Bytes → Bool) (w : World) : Except Err Status → Prop
  | .ok .downloaded => ∃ a, w.archive = some a ∧ good a = true
  | .ok .installed => w.installed = true
  | _ => True

/-! Each routine is analysed once, along its own branches (`fun_cases`): `caseN` is the N-th leaf of its definition, top to
  bottom.  The world after a request differs from the one before in the counter and the log only, so in every branch the
  claims about marks and archive hold by computation. -/

variable (srv : Server) (good : Bytes → Bool)

theorem remoteSize_world (w : World) :
    ∀ {w' s}, remoteSize srv w = (w', s) → w' = (request srv w Req.probe).1 := by
  fun_cases remoteSize srv w <;> rintro _ _ ⟨⟩ <;> simp only [*]

theorem probStatus_spec (w : World) :
    ∀ {w' r}, probStatus srv good w = (w', r) →
      SameMarks w w' ∧ Justified good w' r ∧ (w.installed = true → r = .ok .installed) := by
  fun_cases probStatus srv good w <;> rintro _ _ ⟨⟩
  -- 1 installed, 2 no archive; with an archive: 3 `remoteSize` fails, 4 no size, 5 too long, 6 too short, 7 good, 8 bad
  case case1 hi => exact ⟨.refl w, hi, fun _ => rfl⟩
  case case2 => exact ⟨.refl w, trivial, (absurd · ‹_›)⟩
  all_goals cases remoteSize_world srv w ‹_›
  -- the one branch that answers `downloaded`: it has found the archive and checked it
  case case7 => exact ⟨⟨rfl, rfl⟩, ⟨_, ‹w.archive = some _›, ‹good _ = true›⟩, (absurd · ‹_›)⟩
  all_goals exact ⟨⟨rfl, rfl⟩, trivial, (absurd · ‹_›)⟩

theorem probStatus_installed_iff (w : World) :
    (probStatus srv good w).2 = Except.ok Status.installed ↔ w.installed = true := by
  obtain ⟨hm, hj, hi⟩ := probStatus_spec srv good w (Prod.eta _).symm
  refine ⟨fun h => ?_, hi⟩
  rw [h] at hj
  exact hm.1 ▸ hj

theorem downloadResume_frame (w : World) (pos : Option Nat) :
    ∀ {w' r}, downloadResume srv w pos = (w', r) → SameMarks w w' := by
  fun_cases downloadResume srv w pos <;> rintro _ _ ⟨⟩ <;> cases remoteSize_world srv w ‹_›
  · exact ⟨rfl, rfl⟩  -- the probe fails; in the other branches the request has been made
  all_goals cases ‹request srv _ _ = _›; exact ⟨rfl, rfl⟩

theorem downloadFile_frame (w : World) :
    ∀ {w' r}, downloadFile srv w = (w', r) → SameMarks w w' := by
  fun_cases downloadFile srv w
  -- 6 no archive: a full download; 5 an archive of another length: resumed after the probe; 1–4 end after the probe
  case case6 => exact downloadResume_frame srv w none
  case case5 =>
    cases remoteSize_world srv w ‹_›
    exact fun h => .trans (b := (request srv w Req.probe).1) ⟨rfl, rfl⟩ (downloadResume_frame srv _ _ h)
  all_goals rintro _ _ ⟨⟩; cases remoteSize_world srv w ‹_›; exact ⟨rfl, rfl⟩

theorem removeCorrupted_frame (c : Prop) [Decidable c] (w : World) :
    SameMarks w (if c then { w with archive := none } else w) := by
  split <;> exact ⟨rfl, rfl⟩

theorem downloadLoop_spec (n : Nat) (w : World) (st : Status) :
    ∀ {w' r}, downloadLoop srv good n w st = (w', r) →
      SameMarks w w' ∧ (Justified good w (.ok st) → Justified good w' r) := by
  fun_induction downloadLoop srv good n w st
  -- 1 no attempt left, 2 already `downloaded`; 3 `downloadFile` fails, 4 `probStatus` fails, 5 the next attempt
  case case1 | case2 => rintro _ _ ⟨⟩; exact ⟨.refl _, id⟩
  -- otherwise a corrupted archive has been removed and `downloadFile` has run: up to there the marks are those of `w`
  all_goals have hf := (removeCorrupted_frame _ _).trans (downloadFile_frame srv _ ‹_›)
  case case3 => rintro _ _ ⟨⟩; exact ⟨hf, fun _ => trivial⟩
  case case4 => rintro _ _ ⟨⟩; exact ⟨hf.trans (probStatus_spec srv good _ ‹_›).1, fun _ => trivial⟩
  case case5 ih =>
    intro w' r h
    have hp := probStatus_spec srv good _ ‹_›
    exact ⟨(hf.trans hp.1).trans (ih h).1, fun _ => (ih h).2 hp.2.1⟩

theorem download_spec (w : World) (st : Status) :
    ∀ {w' r}, download srv good w st = (w', r) →
      SameMarks w w' ∧ (Justified good w (.ok st) → Justified good w' r) := by
  fun_cases download srv good w st
  · rintro _ _ ⟨⟩; exact ⟨.refl _, id⟩
  · exact downloadLoop_spec srv good 2 w st

variable {srv good} in
/-- the download phase of `install`, entered when `prob_status` answers anything but `installed` -/
theorem fetch_spec {w0 w1 w2 : World} {st : Status} {r : Except Err Status}
    (hp : probStatus srv good w0 = (w1, .ok st)) (hst : st ≠ .installed) (hd : download srv good w1 st = (w2, r)) :
    w0.installed = false ∧ w2.installed = false ∧ w2.extracted = w0.extracted ∧ Justified good w2 r ∧
      r ≠ .ok .installed := by
  obtain ⟨hm1, hj1, hi⟩ := probStatus_spec srv good w0 hp
  obtain ⟨hm2, hj2⟩ := download_spec srv good w1 st hd
  have h0 : w0.installed = false := Bool.eq_false_iff.mpr fun h => hst (Except.ok.inj (hi h))
  have h2 : w2.installed = false := (hm1.trans hm2).1.trans h0
  refine ⟨h0, h2, (hm1.trans hm2).2, hj2 hj1, ?_⟩
  rintro rfl
  exact Bool.false_ne_true (h2.symm.trans (hj2 hj1))

theorem install_spec (force noClean : Bool) (w : World) :
    ((install srv good force noClean w).2 = .ok .installed ∧ (w.installed = true ∧ force = false) ∧
      (install srv good force noClean w).1.installed = true ∧
      (install srv good force noClean w).1.extracted = w.extracted) ∨
    ((install srv good force noClean w).2 ≠ .ok .installed ∧
      (install srv good force noClean w).1.installed = false ∧
      (install srv good force noClean w).1.extracted = w.extracted) ∨
    ((install srv good force noClean w).2 = .ok .installed ∧ (w.installed = false ∨ force = true) ∧
      (install srv good force noClean w).1.installed = true ∧
      ∃ b, good b = true ∧ (install srv good force noClean w).1.extracted = w.extracted ++ [b]) := by
  -- `w0`, the world once `force` has cleared the mark: what it says about `w`
  have h0 : (if force = true then { w with installed := false } else w).extracted = w.extracted ∧
      ((if force = true then { w with installed := false } else w).installed = true → w.installed = true ∧ force = false) ∧
      ((if force = true then { w with installed := false } else w).installed = false → w.installed = false ∨ force = true) := by
    cases force <;> simp
  fun_cases install srv good force noClean w
  -- `prob_status` fails, or answers `installed`
  case case1 =>
    obtain ⟨hm, -, hi⟩ := probStatus_spec srv good _ ‹_›
    exact .inr (.inl ⟨nofun, hm.1.trans (Bool.eq_false_iff.mpr fun h => nomatch hi h), hm.2.trans h0.1⟩)
  case case2 =>
    obtain ⟨hm, hj, -⟩ := probStatus_spec srv good _ ‹_›
    exact .inl ⟨rfl, h0.2.1 (hm.1.symm.trans hj), hj, hm.2.trans h0.1⟩
  -- otherwise the download phase has run; it ends in an error, in a status other than `downloaded`, or in `downloaded`
  -- without an archive (not reachable), or with one
  all_goals obtain ⟨h0i, h2i, h2e, hj, hne⟩ := fetch_spec ‹_› ‹_› ‹_›
  case case3 | case4 => exact .inr (.inl ⟨hne, h2i, h2e.trans h0.1⟩)
  case case5 => exact .inr (.inl ⟨nofun, h2i, h2e.trans h0.1⟩)
  -- named: the test `st ≠ downloaded` failing, the archive and `_.archive = some a`; unnamed: the three `let` worlds after them
  case case6 hdl a ha _ _ _ =>
    -- the archive that is extracted is the one `downloaded` was claimed for
    cases Decidable.not_not.mp hdl
    obtain ⟨b, hb, hg⟩ := hj
    cases ha.symm.trans hb
    refine .inr (.inr ⟨rfl, h0.2.2 h0i, rfl, a, hg, ?_⟩)
    rw [← h0.1, ← h2e]
    cases noClean <;> rfl

/-- What invocations of the tool do to the install directory: whatever is extracted has the published checksum, and the
  mark is not set without it having been set before or something having been extracted. -/
def Extends (good : Bytes → Bool) (w w' : World) : Prop :=
  ∃ bs, w'.extracted = w.extracted ++ bs ∧ (∀ b ∈ bs, good b = true) ∧ (w'.installed = true → w.installed = true ∨ bs ≠ [])

theorem Extends.refl (w : World) : Extends good w w :=
  ⟨[], (List.append_nil _).symm, nofun, .inl⟩

variable {good} in
theorem Extends.trans {a b c : World} (h1 : Extends good a b) (h2 : Extends good b c) :
    Extends good a c := by
  obtain ⟨bs1, he1, hg1, hi1⟩ := h1
  obtain ⟨bs2, he2, hg2, hi2⟩ := h2
  refine ⟨bs1 ++ bs2, by rw [he2, he1, List.append_assoc], ?_, fun h => ?_⟩
  · intro b hb
    exact (List.mem_append.mp hb).elim (hg1 b) (hg2 b)
  · rcases hi2 h with h | h
    · exact (hi1 h).imp_right fun hne => by simp [hne]
    · exact .inr (by simp [h])

theorem install_extends (force noClean : Bool) (w : World) :
    Extends good w (install srv good force noClean w).1 := by
  rcases install_spec srv good force noClean w with ⟨-, ⟨hw, -⟩, -, he⟩ | ⟨-, hi, he⟩ | ⟨-, -, -, b, hg, he⟩
  · exact ⟨[], by rw [he, List.append_nil], nofun, fun _ => .inl hw⟩
  · exact ⟨[], by rw [he, List.append_nil], nofun, fun h => absurd (hi.symm.trans h) nofun⟩
  · exact ⟨[b], he, by simpa using hg, fun _ => .inr (by simp)⟩

theorem runCalls_extends (calls : List Call) (w : World) :
    Extends good w (runCalls good calls w).1 := by
  induction calls generalizing w with
  | nil => exact .refl good w
  | cons c cs ih => exact (install_extends c.srv good c.force c.noClean { w with reqs := 0, log := [] }).trans (ih _)

end Kapture.C17
