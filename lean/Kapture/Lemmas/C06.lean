/-
  Lemmas/C06.lean — the replacement loop `remove` against mounting chains (`Mounted`), and its round trip with the recovery.
  What `remove` leaves is related directly to climbing in the reversed dictionary, by induction on the replacement
  passes (`exists_mem_remove_up`, `climb_of_mem_remove`: the passes bound the climb, no depth bound is needed); each half
  is then a level that every recovery pass lowers by one (`recoverIter_countdown`): the key of every unmounted original
  entry is posed again (`recoverIter_remove_reaches`, from `foldl_recJobM_progress`), and every entry left is an original
  one or sits above one (`mem_recoverIter_remove`, from `Expl.pass`).
-/
import Kapture.Model.C06

namespace Kapture.C06
open Kapture

variable {G : Type}

def isRig (rigs : Rigs G) (dev : String) : Prop := (membersOf rigs dev).isSome = true

/-- "the world pose implied by the rig pose and the rig geometry": `(d', g')` is reached from `(d, g)` by descending the rig
  forest, composing the member poses -/
inductive Mounted (mul : G → G → G) (rigs : Rigs G) : String × G → String × G → Prop where
  | here (d : String) (g : G) : Mounted mul rigs (d, g) (d, g)
  | step (r : String) (g : G) (members : List (String × G)) (m : String) (gm : G) (d : String) (g' : G) :
      membersOf rigs r = some members → (m, gm) ∈ members →
      Mounted mul rigs (m, mul gm g) (d, g') → Mounted mul rigs (r, g) (d, g')

/-- every mounting chain from `d` reaches a non-rig device within n steps (nesting depth at most n) -/
def DepthLE (rigs : Rigs G) : Nat → String → Prop
  | 0, d => ¬ isRig rigs d
  | n + 1, d => ∀ members, membersOf rigs d = some members → ∀ m ∈ members, DepthLE rigs n m.1

/-- same entries, order aside -/
def SameEntries (a b : List (Entry G)) : Prop := ∀ ts d g, (∃ e ∈ a, e.ts = ts ∧ e.dev = d ∧ e.g = g) ↔ (∃ e ∈ b, e.ts = ts ∧ e.dev = d ∧ e.g = g)

theorem sameEntries_of_mem_iff {a b : List (Entry G)} (h : ∀ e, e ∈ a ↔ e ∈ b) : SameEntries a b :=
  fun _ _ _ => exists_congr fun e => and_congr_left fun _ => h e

/-! ### rigs and the replacement loop -/

variable {mul : G → G → G} {rigs : Rigs G}

theorem not_isRig_iff {d : String} : ¬ isRig rigs d ↔ membersOf rigs d = none :=
  Option.not_isSome_iff_eq_none

theorem isRig_of_some {d : String} {members : List (String × G)}
    (h : membersOf rigs d = some members) : isRig rigs d := by
  unfold isRig; rw [h]; rfl

theorem hasRigEntry_eq_false_iff {t : List (Entry G)} :
    hasRigEntry rigs t = false ↔ ∀ e ∈ t, ¬ isRig rigs e.dev :=
  List.any_eq_false

theorem depthLE_of_not_rig (k : Nat) {d : String} (h : ¬ isRig rigs d) : DepthLE rigs k d := by
  cases k with
  | zero => exact h
  | succ k => exact fun members hmo => absurd (isRig_of_some hmo) h

theorem mem_removeStep {t : List (Entry G)} {e' : Entry G} :
    e' ∈ removeStep mul rigs t ↔ ∃ e ∈ t, (membersOf rigs e.dev = none ∧ e' = e) ∨
      (∃ members m gm, membersOf rigs e.dev = some members ∧ (m, gm) ∈ members ∧
        e' = ⟨e.ts, m, mul gm e.g⟩) := by
  unfold removeStep
  rw [List.mem_flatMap]
  refine exists_congr fun e => and_congr_right fun _ => ?_
  cases membersOf rigs e.dev with
  | none =>
    constructor
    · exact fun h => .inl ⟨rfl, List.mem_singleton.mp h⟩
    · rintro (⟨_, rfl⟩ | ⟨_, _, _, h, _⟩)
      · exact List.mem_singleton.mpr rfl
      · cases h
  | some members =>
    constructor
    · intro h
      obtain ⟨⟨m, gm⟩, hm, rfl⟩ := List.mem_map.mp h
      exact .inr ⟨members, m, gm, rfl, hm, rfl⟩
    · rintro (⟨h, _⟩ | ⟨_, m, gm, h, hm, rfl⟩) <;> cases h
      exact List.mem_map.mpr ⟨(m, gm), hm, rfl⟩

theorem removeStep_eq_self {t : List (Entry G)} (h : ∀ e ∈ t, ¬ isRig rigs e.dev) : removeStep mul rigs t = t := by
  unfold removeStep
  rw [List.flatMap_def, (List.map_inj_left (g := fun e => [e])).mpr, ← List.flatMap_def, List.flatMap_singleton']
  intro e he
  rw [not_isRig_iff.mp (h e he)]

theorem remove_eq_self (n : Nat) {t : List (Entry G)} (h : ∀ e ∈ t, ¬ isRig rigs e.dev) :
    remove mul rigs n t = t := by
  cases n with
  | zero => rfl
  | succ n =>
    rw [remove, if_neg]
    rw [hasRigEntry_eq_false_iff.mpr h]
    exact Bool.false_ne_true

/-- the early exit changes nothing: without a rig entry, further passes leave the list as it is -/
theorem remove_succ (n : Nat) (t : List (Entry G)) :
    remove mul rigs (n + 1) t = remove mul rigs n (removeStep mul rigs t) := by
  rw [remove]
  split
  · rfl
  · next hh =>
    have h := hasRigEntry_eq_false_iff.mp (Bool.eq_false_iff.mpr hh)
    rw [removeStep_eq_self h, remove_eq_self n h]

theorem remove_one (mul : G → G → G) (rigs : Rigs G) (t : List (Entry G)) :
    remove mul rigs 1 t = removeStep mul rigs t :=
  remove_succ 0 t

theorem Mounted.trans {a b c : String × G}
    (h1 : Mounted mul rigs a b) (h2 : Mounted mul rigs b c) : Mounted mul rigs a c := by
  induction h1 with
  | here d g => exact h2
  | step r g members m gm d g' hmo hm _ ih => exact .step r g members m gm c.1 c.2 hmo hm (ih h2)

theorem remove_keeps_free (n : Nat) {t : List (Entry G)} {e : Entry G}
    (he : e ∈ t) (hf : ¬ isRig rigs e.dev) : e ∈ remove mul rigs n t := by
  induction n generalizing t with
  | zero => exact he
  | succ n ih =>
    rw [remove_succ]
    exact ih (mem_removeStep.mpr ⟨e, he, .inl ⟨not_isRig_iff.mp hf, rfl⟩⟩)

theorem mem_remove_of_mounted {n : Nat} {t : List (Entry G)} {ts : Int} {a c : String × G} (hs : ¬ isRig rigs c.1)
    (he : ⟨ts, a.1, a.2⟩ ∈ t) (hd : DepthLE rigs n a.1) (hm : Mounted mul rigs a c) :
    ⟨ts, c.1, c.2⟩ ∈ remove mul rigs n t := by
  induction hm generalizing n t with
  | here d g => exact remove_keeps_free n he hs
  | step r g members m gm d g' hmo hmem _ ih =>
    cases n with
    | zero => exact absurd (isRig_of_some hmo) hd
    | succ n =>
      rw [remove_succ]
      exact ih hs (mem_removeStep.mpr ⟨_, he, .inr ⟨members, m, gm, hmo, hmem, rfl⟩⟩) (hd members hmo (m, gm) hmem)

/-! ### the devices below a device -/

/-- the devices reached from `d` by at most `n` mounting steps, `d` included -/
def belowList (rigs : Rigs G) : Nat → String → List String
  | 0, d => [d]
  | n + 1, d => d :: (match membersOf rigs d with
      | some members => members.flatMap (fun m => belowList rigs n m.1)
      | none => [])

theorem self_mem_belowList (rigs : Rigs G) (n : Nat) (d : String) : d ∈ belowList rigs n d := by
  cases n <;> exact List.mem_cons_self

theorem mem_belowList_succ {n : Nat} {a d m : String} {gm : G} {members : List (String × G)}
    (hmo : membersOf rigs a = some members) (hm : (m, gm) ∈ members) (h : d ∈ belowList rigs n m) :
    d ∈ belowList rigs (n + 1) a := by
  unfold belowList
  rw [hmo]
  exact List.mem_cons_of_mem _ (List.mem_flatMap.mpr ⟨(m, gm), hm, h⟩)

theorem mem_belowList_of_mounted {n : Nat} {a c : String × G}
    (hd : DepthLE rigs n a.1) (hm : Mounted mul rigs a c) : c.1 ∈ belowList rigs n a.1 := by
  induction hm generalizing n with
  | here d g => exact self_mem_belowList rigs n d
  | step r g members m gm d g' hmo hmem _ ih =>
    cases n with
    | zero => exact absurd (isRig_of_some hmo) hd
    | succ n => exact mem_belowList_succ hmo hmem (ih (hd members hmo (m, gm) hmem))

instance decIsRig (rigs : Rigs G) (d : String) : Decidable (isRig rigs d) := by unfold isRig; exact inferInstance

instance decDepthLE (rigs : Rigs G) : (n : Nat) → (d : String) → Decidable (DepthLE rigs n d)
  | 0, d => by unfold DepthLE isRig; exact inferInstance
  | n + 1, d =>
    match hmo : membersOf rigs d with
    | none => isTrue (by intro members h; rw [hmo] at h; cases h)
    | some ms =>
      have : Decidable (∀ m ∈ ms, DepthLE rigs n m.1) :=
        @List.decidableBAll _ (fun m => DepthLE rigs n m.1) (fun m => decDepthLE rigs n m.1) ms
      if h : ∀ m ∈ ms, DepthLE rigs n m.1 then
        isTrue (by intro members h'; rw [hmo] at h'; cases h'; exact h)
      else isFalse (fun hd => h (hd ms hmo))

/-! ### the reversed rig dictionary -/

/-- the reversed dictionary is `dict(pairs)` over the flattened member list -/
def revPairs (inv : G → G) (rigs : Rigs G) : List (String × String × G) :=
  rigs.flatMap (fun r => r.2.map (fun m => (m.1, (r.1, inv m.2))))

variable {inv : G → G}

theorem reverseRigs_eq (inv : G → G) (rigs : Rigs G) : reverseRigs inv rigs = Dict.ofList (revPairs inv rigs) := by
  unfold reverseRigs revPairs Dict.ofList
  rw [List.foldl_flatMap]
  congr
  funext acc r
  rw [List.foldl_map]

theorem mem_revPairs {m r : String} {x : G} :
    (m, (r, x)) ∈ revPairs inv rigs ↔ ∃ members gm, (r, members) ∈ rigs ∧ (m, gm) ∈ members ∧ x = inv gm := by
  unfold revPairs
  simp only [List.mem_flatMap, List.mem_map, Prod.mk.injEq]
  constructor
  · rintro ⟨⟨r', members⟩, hr, ⟨m', gm⟩, hm, rfl, rfl, rfl⟩
    exact ⟨members, gm, hr, hm, rfl⟩
  · rintro ⟨members, gm, hr, hm, rfl⟩
    exact ⟨(r, members), hr, (m, gm), hm, rfl, rfl, rfl⟩

theorem reverseRigs_sound {m r : String} {x : G} (h : Dict.get? m (reverseRigs inv rigs) = some (r, x)) :
    ∃ members gm, (r, members) ∈ rigs ∧ (m, gm) ∈ members ∧ x = inv gm := by
  rw [reverseRigs_eq, Dict.get?_ofList] at h
  exact mem_revPairs.mp (List.mem_reverse.mp (Dict.mem_of_get? h))

theorem keys_revPairs (inv : G → G) (rigs : Rigs G) :
    Dict.keys (revPairs inv rigs) = rigs.flatMap (fun r => r.2.map (·.1)) := by
  unfold revPairs Dict.keys
  rw [List.map_flatMap]
  simp only [List.map_map]
  rfl

theorem reverseRigs_complete (inv : G → G) (hone : (rigs.flatMap (fun r => r.2.map (·.1))).Nodup)
    {m r : String} {members : List (String × G)} {gm : G} (hr : (r, members) ∈ rigs) (hm : (m, gm) ∈ members) :
    Dict.get? m (reverseRigs inv rigs) = some (r, inv gm) := by
  rw [← keys_revPairs inv] at hone
  rw [reverseRigs_eq, Dict.ofList_of_nodup _ hone]
  exact Dict.get?_of_mem hone (mem_revPairs.mpr ⟨members, gm, hr, hm, rfl⟩)

theorem get?_reverseRigs_eq_none {d : String} :
    Dict.get? d (reverseRigs inv rigs) = none ↔ d ∉ rigs.flatMap (fun r => r.2.map (·.1)) := by
  rw [reverseRigs_eq, Dict.get?_ofList, Dict.get?_eq_none_iff, Dict.keys, List.map_reverse, List.mem_reverse,
    ← Dict.keys, keys_revPairs]

theorem unmounted_of_get?_none (inv : G → G) (rigs : Rigs G)
    (hone : (rigs.flatMap (fun r => r.2.map (·.1))).Nodup) (d : String)
    (h : (Dict.get? d (reverseRigs inv rigs)).isNone = true) : d ∉ rigs.flatMap (fun r => r.2.map (·.1)) := by
  have _ := hone  -- not needed: the keys of `reverseRigs` are the members, repeated or not
  exact get?_reverseRigs_eq_none.mp (Option.isNone_iff_eq_none.mp h)

/-! ### one job, one pass -/

/-- the master-sensor filter of `rigs_recover_inplace` as a predicate on device ids (`None` filters nothing) -/
def okOf (masters : Option (List String)) (d : String) : Bool :=
  match masters with
  | some ms => ms.contains d
  | none => true

/-- one job of the recovery pass, master-sensor filter `ok` -/
def recJobM (mul : G → G → G) (rev : List (String × String × G)) (ok : String → Bool) (cur : List (Entry G))
    (e : Entry G) : List (Entry G) :=
  match Dict.get? e.dev rev with
  | none => cur
  | some (rig, x) =>
    if !ok e.dev then cur.filter (fun c => !(c.ts == e.ts && c.dev == e.dev))
    else if (cur.filter (fun c => !(c.ts == e.ts && c.dev == e.dev))).any (fun c => c.ts == e.ts && c.dev == rig)
    then cur.filter (fun c => !(c.ts == e.ts && c.dev == e.dev))
    else cur.filter (fun c => !(c.ts == e.ts && c.dev == e.dev)) ++ [⟨e.ts, rig, mul x e.g⟩]

theorem recoverStep_eq (mul : G → G → G) (inv : G → G) (rigs : Rigs G) (masters : Option (List String))
    (sorted : List (Entry G)) :
    recoverStep mul inv rigs masters sorted
      = sorted.foldl (recJobM mul (reverseRigs inv rigs) (okOf masters)) sorted := by
  cases masters <;> rfl

variable {rev : List (String × String × G)} {ok : String → Bool}

theorem recJobM_none (cur : List (Entry G)) {e : Entry G} (h : Dict.get? e.dev rev = none) :
    recJobM mul rev ok cur e = cur := by
  unfold recJobM; rw [h]

theorem mem_filter_pop {cur : List (Entry G)} {e c : Entry G} :
    c ∈ cur.filter (fun c => !(c.ts == e.ts && c.dev == e.dev)) ↔ c ∈ cur ∧ ¬ (c.ts = e.ts ∧ c.dev = e.dev) := by
  rw [List.mem_filter]
  simp only [Bool.not_eq_true', Bool.and_eq_false_iff, beq_eq_false_iff_ne, ne_eq,
    Decidable.not_and_iff_not_or_not]

theorem recJobM_some (cur : List (Entry G)) {e : Entry G} {r : String} {x : G} (h : Dict.get? e.dev rev = some (r, x)) :
    ∃ new, recJobM mul rev ok cur e = cur.filter (fun c => !(c.ts == e.ts && c.dev == e.dev)) ++ new ∧
      (∀ c ∈ new, c = ⟨e.ts, r, mul x e.g⟩) ∧
      (ok e.dev = true → ∃ c ∈ recJobM mul rev ok cur e, c.ts = e.ts ∧ c.dev = r) := by
  unfold recJobM
  rw [h]
  dsimp only
  generalize cur.filter (fun c => !(c.ts == e.ts && c.dev == e.dev)) = popped
  cases ok e.dev
  · rw [Bool.not_false, if_pos rfl]
    exact ⟨[], (List.append_nil _).symm, fun _ hc => absurd hc List.not_mem_nil, nofun⟩
  · rw [Bool.not_true, if_neg Bool.false_ne_true]
    cases ha : popped.any (fun c => c.ts == e.ts && c.dev == r)
    · rw [if_neg Bool.false_ne_true]
      exact ⟨[_], rfl, fun c hc => List.mem_singleton.mp hc,
        fun _ => ⟨_, List.mem_append_right _ (List.mem_singleton.mpr rfl), rfl, rfl⟩⟩
    · rw [if_pos rfl]
      obtain ⟨c, hc, hp⟩ := List.any_eq_true.mp ha
      rw [Bool.and_eq_true, beq_iff_eq, beq_iff_eq] at hp
      exact ⟨[], (List.append_nil _).symm, fun _ hc => absurd hc List.not_mem_nil, fun _ => ⟨c, hc, hp⟩⟩

theorem mem_recJobM {cur : List (Entry G)} {e c : Entry G} (hc : c ∈ recJobM mul rev ok cur e) :
    (c ∈ cur ∧ (c.ts = e.ts → c.dev = e.dev → Dict.get? e.dev rev = none)) ∨
      ∃ r x, Dict.get? e.dev rev = some (r, x) ∧ c = ⟨e.ts, r, mul x e.g⟩ := by
  cases hg : Dict.get? e.dev rev with
  | none => rw [recJobM_none cur hg] at hc; exact .inl ⟨hc, fun _ _ => rfl⟩
  | some p =>
    obtain ⟨new, heq, hnew, _⟩ := recJobM_some (mul := mul) (ok := ok) cur hg
    rw [heq, List.mem_append, mem_filter_pop] at hc
    exact hc.imp (.imp_right fun h h1 h2 => absurd ⟨h1, h2⟩ h) fun h => ⟨p.1, p.2, rfl, hnew c h⟩

theorem recJobM_keeps {cur : List (Entry G)} {e c : Entry G} (hc : c ∈ cur)
    (hne : c.ts = e.ts → c.dev = e.dev → Dict.get? e.dev rev = none) : c ∈ recJobM mul rev ok cur e := by
  cases hg : Dict.get? e.dev rev with
  | none => rw [recJobM_none cur hg]; exact hc
  | some p =>
    obtain ⟨new, heq, _⟩ := recJobM_some (mul := mul) (ok := ok) cur hg
    rw [heq]
    exact List.mem_append_left _ (mem_filter_pop.mpr ⟨hc, fun hk => nomatch hg.symm.trans (hne hk.1 hk.2)⟩)

theorem mem_foldl_recJobM {jobs cur : List (Entry G)} {c : Entry G} (hc : c ∈ jobs.foldl (recJobM mul rev ok) cur) :
    (c ∈ cur ∧ ∀ j ∈ jobs, c.ts = j.ts → c.dev = j.dev → Dict.get? j.dev rev = none) ∨
    (∃ j ∈ jobs, ∃ r x, Dict.get? j.dev rev = some (r, x) ∧ c = ⟨j.ts, r, mul x j.g⟩) := by
  induction jobs generalizing cur with
  | nil => exact .inl ⟨hc, fun _ hj => absurd hj List.not_mem_nil⟩
  | cons j0 rest ih =>
    rcases ih hc with ⟨h1, h2⟩ | ⟨j, hj, h⟩
    · rcases mem_recJobM h1 with ⟨h3, h4⟩ | h
      · exact .inl ⟨h3, List.forall_mem_cons.mpr ⟨h4, h2⟩⟩
      · exact .inr ⟨j0, List.mem_cons_self, h⟩
    · exact .inr ⟨j, List.mem_cons_of_mem _ hj, h⟩

theorem foldl_recJobM_keeps {mul : G → G → G} {rev : List (String × String × G)} {ok : String → Bool}
    (jobs cur : List (Entry G)) (c : Entry G) (hc : c ∈ cur) (hn : Dict.get? c.dev rev = none) :
    c ∈ jobs.foldl (recJobM mul rev ok) cur :=
  List.foldlRecOn (motive := fun acc => c ∈ acc) jobs _ hc fun _ h _ _ => recJobM_keeps h fun _ hd => hd ▸ hn

/-! ### climbing the forest, by device (`Up`) and by entry with its pose (`Climb`) -/

/-- `Up rev ok j x a`: climbing `j` times from `x` to the rig it is mounted on (as the reversed dictionary `rev` tells)
  reaches `a`, and every device left behind on the way passes the master-sensor filter `ok` -/
def Up (rev : List (String × String × G)) (ok : String → Bool) : Nat → String → String → Prop
  | 0, x, a => x = a
  | j + 1, x, a => ok x = true ∧ ∃ p gx, Dict.get? x rev = some (p, gx) ∧ Up rev ok j p a

theorem Up.snoc {j : Nat} {x a p : String} {ga : G}
    (h : Up rev ok j x a) (hok : ok a = true) (hg : Dict.get? a rev = some (p, ga)) : Up rev ok (j + 1) x p := by
  induction j generalizing x with
  | zero => cases (h : x = a); exact ⟨hok, p, ga, hg, rfl⟩
  | succ j ih =>
    obtain ⟨h1, q, gx, h2, h3⟩ := h
    exact ⟨h1, q, gx, h2, ih h3⟩

theorem Up.weaken {rev : List (String × String × G)} {ok : String → Bool} {j : Nat} {x a : String}
    (h : Up rev ok j x a) : Up rev (fun _ => true) j x a := by
  induction j generalizing x with
  | zero => exact h
  | succ j ih =>
    obtain ⟨_, q, gx, h2, h3⟩ := h
    exact ⟨rfl, q, gx, h2, ih h3⟩

theorem Up.mounted {mul : G → G → G} {inv : G → G} {rigs : Rigs G} {ok : String → Bool}
    (hrk : (rigs.map (·.1)).Nodup) {j : Nat} {x a : String} (h : Up (reverseRigs inv rigs) ok j x a) (g : G) :
    ∃ g', Mounted mul rigs (a, g) (x, g') := by
  induction j generalizing x with
  | zero => cases (h : x = a); exact ⟨g, .here _ _⟩
  | succ j ih =>
    obtain ⟨_, p, gx, h2, h3⟩ := h
    obtain ⟨gp, hM⟩ := ih h3
    obtain ⟨members, gm, hr, hm, _⟩ := reverseRigs_sound h2
    exact ⟨mul gm gp, hM.trans (.step p gp members x gm x _ (Dict.get?_of_mem hrk hr) hm (.here _ _))⟩

/-- a job replaces the entry `c` by `⟨c.ts, p, mul gx c.g⟩` when the reversed dictionary has `c.dev ↦ (p, gx)`; `Climb j` is
  `j` such steps.  Recovery is followed in these terms: no group law is needed until a climb is compared with the
  replacement (`climb_of_mem_remove`). -/
def Climb (mul : G → G → G) (rev : List (String × String × G)) : Nat → Entry G → Entry G → Prop
  | 0, c, a => c = a
  | j + 1, c, a => ∃ p gx, Dict.get? c.dev rev = some (p, gx) ∧ Climb mul rev j ⟨c.ts, p, mul gx c.g⟩ a

theorem Climb.snoc {j : Nat} {c a : Entry G} {p : String} {ga : G} (h : Climb mul rev j c a)
    (hg : Dict.get? a.dev rev = some (p, ga)) : Climb mul rev (j + 1) c ⟨a.ts, p, mul ga a.g⟩ := by
  induction j generalizing c with
  | zero => cases (h : c = a); exact ⟨p, ga, hg, rfl⟩
  | succ j ih =>
    obtain ⟨q, gx, h2, h3⟩ := h
    exact ⟨q, gx, h2, ih h3⟩

/-- follow one member that passes the filter at each replacement pass -/
theorem exists_mem_remove_up (mul : G → G → G) (inv : G → G) (hone : (rigs.flatMap (fun r => r.2.map (·.1))).Nodup)
    {n : Nat} {t : List (Entry G)} {ts : Int} {a : String} {ga : G} (he : ⟨ts, a, ga⟩ ∈ t)
    (hm : ∀ r ∈ belowList rigs n a, ∀ members, membersOf rigs r = some members → ∃ m ∈ members, ok m.1 = true) :
    ∃ c ∈ remove mul rigs n t, c.ts = ts ∧ ∃ j, Up (reverseRigs inv rigs) ok j c.dev a ∧ j ≤ n := by
  induction n generalizing t a ga with
  | zero => exact ⟨_, he, rfl, 0, rfl, Nat.le_refl 0⟩
  | succ n ih =>
    cases hmo : membersOf rigs a with
    | none => exact ⟨_, remove_keeps_free _ he (not_isRig_iff.mpr hmo), rfl, 0, rfl, Nat.zero_le _⟩
    | some members =>
      obtain ⟨⟨m, gm⟩, hmem, hok⟩ := hm a (self_mem_belowList rigs (n + 1) a) members hmo
      rw [remove_succ]
      obtain ⟨c, hc, hts, j, hup, hj⟩ := ih (mem_removeStep.mpr ⟨_, he, .inr ⟨members, m, gm, hmo, hmem, rfl⟩⟩)
        fun r hr => hm r (mem_belowList_succ hmo hmem hr)
      exact ⟨c, hc, hts, j + 1, hup.snoc hok (reverseRigs_complete inv hone (Dict.mem_of_get? hmo) hmem),
        Nat.succ_le_succ hj⟩

/-- a replacement step read backwards is a climbing step, by the left-inverse law -/
theorem climb_of_mem_remove (hinv : ∀ a b, mul (inv a) (mul a b) = b)
    (hone : (rigs.flatMap (fun r => r.2.map (·.1))).Nodup) (n : Nat) {t : List (Entry G)} {c : Entry G}
    (h : c ∈ remove mul rigs n t) : ∃ e ∈ t, ∃ j ≤ n, Climb mul (reverseRigs inv rigs) j c e := by
  induction n generalizing t with
  | zero => exact ⟨c, h, 0, Nat.le_refl 0, rfl⟩
  | succ n ih =>
    rw [remove_succ] at h
    obtain ⟨e1, he1, j, hj, hcl⟩ := ih h
    obtain ⟨e, he, ⟨_, rfl⟩ | ⟨members, m, gm, hmo, hm, rfl⟩⟩ := mem_removeStep.mp he1
    · exact ⟨e1, he, j, Nat.le_succ_of_le hj, hcl⟩
    · have := hcl.snoc (reverseRigs_complete inv hone (Dict.mem_of_get? hmo) hm)
      rw [hinv] at this
      exact ⟨e, he, j + 1, Nat.succ_le_succ hj, this⟩

/-! ### what a pass does to a climb

  The two halves read a pass in opposite directions: `foldl_recJobM_progress` follows one posed key forward through the
  jobs, `Expl.pass` traces every entry of the result back to where it came from (`mem_foldl_recJobM`). -/

/-- the invariant along the jobs: an entry that is itself a job still to come may be one step further from `a`, since its
  job lifts it -/
theorem foldl_recJobM_progress {a : String} (ha : Dict.get? a rev = none) (ts : Int) (m : Nat) {jobs cur : List (Entry G)}
    (h : ∃ c ∈ cur, c.ts = ts ∧ ∃ j, Up rev ok j c.dev a ∧ (j ≤ m - 1 ∨ (j ≤ m ∧ c ∈ jobs))) :
    ∃ c ∈ jobs.foldl (recJobM mul rev ok) cur, c.ts = ts ∧ ∃ j, Up rev ok j c.dev a ∧ j ≤ m - 1 := by
  induction jobs generalizing cur with
  | nil =>
    obtain ⟨c, hc, hts, j, hup, hle | ⟨_, hjob⟩⟩ := h
    · exact ⟨c, hc, hts, j, hup, hle⟩
    · cases hjob
  | cons j0 rest ih =>
    apply ih
    obtain ⟨c, hc, hts, j, hup, hcase⟩ := h
    by_cases hk : c.ts = j0.ts ∧ c.dev = j0.dev
    · cases j with
      | zero =>
        -- `c` sits on `a`, which no job pops
        cases (hup : c.dev = a)
        exact ⟨c, recJobM_keeps hc fun _ _ => hk.2 ▸ ha, hts, 0, rfl, .inl (Nat.zero_le _)⟩
      | succ j' =>
        -- `j0` pops `c` and leaves an entry of the rig of `c`, one step closer to `a`
        obtain ⟨hok, q, gx, hg, h3⟩ := hup
        rw [hk.2] at hok hg
        obtain ⟨_, _, _, hrig⟩ := recJobM_some (mul := mul) (ok := ok) cur hg
        obtain ⟨c', hc', hts', hdev'⟩ := hrig hok
        exact ⟨c', hc', hts'.trans (hk.1.symm.trans hts), j', hdev' ▸ h3,
          .inl (hcase.elim (Nat.le_of_succ_le ·) (Nat.le_sub_one_of_lt ·.1))⟩
    · -- another key: `c` stays, and it is not the job `j0`
      refine ⟨c, recJobM_keeps hc fun h1 h2 => absurd ⟨h1, h2⟩ hk, hts, j, hup,
        hcase.imp_right (.imp_right fun hjob => ?_)⟩
      exact (List.mem_cons.mp hjob).resolve_left fun h => hk (h ▸ ⟨rfl, rfl⟩)

/-- `c` is explained by the original trajectory `t`: it climbs back to an original entry in at most `m` steps, or its
  device lies strictly above the device of an original entry of its timestamp -/
def Expl (mul : G → G → G) (rev : List (String × String × G)) (t : List (Entry G)) (m : Nat) (c : Entry G) : Prop :=
  ∃ e ∈ t, (∃ j ≤ m, Climb mul rev j c e) ∨ (e.ts = c.ts ∧ ∃ j, Up rev (fun _ => true) (j + 1) e.dev c.dev)

theorem Expl.pass {t : List (Entry G)} {m : Nat} {s : List (Entry G)}
    (h : ∀ c ∈ s, Expl mul rev t m c) : ∀ c ∈ s.foldl (recJobM mul rev ok) s, Expl mul rev t (m - 1) c := by
  intro c hc
  rcases mem_foldl_recJobM hc with ⟨h1, h2⟩ | ⟨j0, hj0, r, x, hg, rfl⟩
  · -- `c` has a job of its own that did not pop it: it is unmounted and climbs no further
    obtain ⟨e, he, ⟨j, _, hcl⟩ | hup⟩ := h c h1
    · cases j with
      | zero => exact ⟨e, he, .inl ⟨0, Nat.zero_le _, hcl⟩⟩
      | succ j =>
        obtain ⟨p, gx, hg, _⟩ := hcl
        cases hg.symm.trans (h2 c h1 rfl rfl)
    · exact ⟨e, he, .inr hup⟩
  · -- `c` is what the job of `j0` appends: the first climbing step of `j0`
    obtain ⟨e, he, ⟨j, hj, hcl⟩ | ⟨hts, j, hup⟩⟩ := h j0 hj0
    · cases j with
      | zero =>
        cases (hcl : j0 = e)
        exact ⟨j0, he, .inr ⟨rfl, 0, rfl, r, x, hg, rfl⟩⟩
      | succ j =>
        obtain ⟨p, gx, hg', hcl⟩ := hcl
        cases hg.symm.trans hg'
        exact ⟨e, he, .inl ⟨j, Nat.le_sub_one_of_lt hj, hcl⟩⟩
    · exact ⟨e, he, .inr ⟨hts, j + 1, hup.snoc rfl hg⟩⟩

/-! ### iterating the pass -/

/-- `k` passes of rigs_recover_inplace; before each pass the entries are listed by `σ` (the code sorts them by
  (timestamp, device); the results below hold for any listing that keeps the same entries) -/
def recoverIter (mul : G → G → G) (inv : G → G) (rigs : Rigs G) (masters : Option (List String))
    (σ : List (Entry G) → List (Entry G)) : Nat → List (Entry G) → List (Entry G)
  | 0, t => t
  | k + 1, t => recoverIter mul inv rigs masters σ k (recoverStep mul inv rigs masters (σ t))

theorem recoverIter_id_eq (mul : G → G → G) (inv : G → G) (rigs : Rigs G) (masters : Option (List String))
    (k : Nat) (t : List (Entry G)) :
    recoverIter mul inv rigs masters id k t
      = (List.range k).foldl (fun cur _ => recoverStep mul inv rigs masters cur) t := by
  induction k generalizing t with
  | zero => rfl
  | succ k ih =>
    rw [List.range_succ_eq_map, List.foldl_cons, List.foldl_map]
    exact ih _

theorem recoverIter_countdown (mul : G → G → G) (inv : G → G) (rigs : Rigs G) (masters : Option (List String))
    (σ : List (Entry G) → List (Entry G)) {Q : Nat → List (Entry G) → Prop}
    (hstep : ∀ m s, Q m s → Q (m - 1) (recoverStep mul inv rigs masters (σ s))) {n k : Nat} (hk : n ≤ k)
    {t : List (Entry G)} (h0 : Q n t) : Q 0 (recoverIter mul inv rigs masters σ k t) := by
  induction k generalizing n t with
  | zero =>
    cases Nat.le_zero.mp hk
    exact h0
  | succ k ih => exact ih (Nat.sub_le_of_le_add hk) (hstep n t h0)

variable {masters : Option (List String)} {σ : List (Entry G) → List (Entry G)}

theorem recoverIter_remove_reaches (hσ : ∀ l c, c ∈ σ l ↔ c ∈ l)
    (hone : (rigs.flatMap (fun r => r.2.map (·.1))).Nodup) {t : List (Entry G)} {n k : Nat} (hk : n ≤ k)
    {e : Entry G} (he : e ∈ t)
    (hm : ∀ r ∈ belowList rigs n e.dev, ∀ members, membersOf rigs r = some members →
      ∃ m ∈ members, okOf masters m.1 = true)
    (htop : e.dev ∉ rigs.flatMap (fun r => r.2.map (·.1))) :
    ∃ c ∈ recoverIter mul inv rigs masters σ k (remove mul rigs n t), c.ts = e.ts ∧ c.dev = e.dev := by
  have key := recoverIter_countdown mul inv rigs masters σ (Q := fun m s =>
      ∃ c ∈ s, c.ts = e.ts ∧ ∃ j, Up (reverseRigs inv rigs) (okOf masters) j c.dev e.dev ∧ j ≤ m)
    ?_ hk (exists_mem_remove_up mul inv hone he hm)
  · obtain ⟨c, hc, hts, j, hup, hj⟩ := key
    cases Nat.le_zero.mp hj
    exact ⟨c, hc, hts, hup⟩
  · rintro m s ⟨c, hc, hts, j, hup, hle⟩
    rw [recoverStep_eq]
    have hc' := (hσ s c).mpr hc
    exact foldl_recJobM_progress (get?_reverseRigs_eq_none.mpr htop) e.ts m ⟨c, hc', hts, j, hup, .inr ⟨hle, hc'⟩⟩

theorem mem_recoverIter_remove (hσ : ∀ l c, c ∈ σ l ↔ c ∈ l) {t : List (Entry G)} {n k : Nat}
    (hinv : ∀ a b, mul (inv a) (mul a b) = b) (hone : (rigs.flatMap (fun r => r.2.map (·.1))).Nodup)
    (hk : n ≤ k) {c : Entry G} (hc : c ∈ recoverIter mul inv rigs masters σ k (remove mul rigs n t)) :
    c ∈ t ∨ ∃ e ∈ t, e.ts = c.ts ∧ ∃ j, Up (reverseRigs inv rigs) (fun _ => true) (j + 1) e.dev c.dev := by
  have key := recoverIter_countdown mul inv rigs masters σ
    (Q := fun m s => ∀ c ∈ s, Expl mul (reverseRigs inv rigs) t m c) ?_ hk ?_ c hc
  · obtain ⟨e, he, ⟨j, hj, hcl⟩ | hup⟩ := key
    · -- `k ≥ n` passes leave no step to climb: the entry is the original one that explains it
      cases Nat.le_zero.mp hj
      exact .inl ((hcl : c = e) ▸ he)
    · exact .inr ⟨e, he, hup⟩
  · intro m s h
    rw [recoverStep_eq]
    exact Expl.pass fun c hc => h c ((hσ s c).mp hc)
  · intro c hc
    obtain ⟨e, he, hcl⟩ := climb_of_mem_remove hinv hone n hc
    exact ⟨e, he, .inl hcl⟩

theorem recover_remove_unmounted (hσ : ∀ l c, c ∈ σ l ↔ c ∈ l) {t : List (Entry G)} {n k : Nat}
    (hinv : ∀ a b, mul (inv a) (mul a b) = b)
    (hrk : (rigs.map (·.1)).Nodup)
    (hone : (rigs.flatMap (fun r => r.2.map (·.1))).Nodup)
    (hsingle : ∀ e ∈ t, ∀ e' ∈ t, e.ts = e'.ts → e'.dev ∈ belowList rigs n e.dev → e'.dev = e.dev)
    (hkeys : (t.map (fun e => (e.ts, e.dev))).Nodup)
    (hk : n ≤ k) {e : Entry G} (he : e ∈ t) (hd : DepthLE rigs n e.dev)
    (hm : ∀ r ∈ belowList rigs n e.dev, ∀ members, membersOf rigs r = some members →
      ∃ m ∈ members, okOf masters m.1 = true)
    (htop : e.dev ∉ rigs.flatMap (fun r => r.2.map (·.1))) :
    e ∈ recoverIter mul inv rigs masters σ k (remove mul rigs n t) := by
  obtain ⟨c, hc, hcts, hcdev⟩ := recoverIter_remove_reaches (mul := mul) (inv := inv) hσ hone hk he hm htop
  rcases mem_recoverIter_remove hσ hinv hone hk hc with hct | ⟨e', he', hts', i, hupi⟩
  · -- `c` is an original entry with the key of `e`
    exact Dict.eq_of_nodup_map hkeys hct he (Prod.ext hcts hcdev) ▸ hc
  · -- or `e.dev` lies strictly above a posed device, which `hsingle` excludes
    exfalso
    rw [hcdev] at hupi
    obtain ⟨g', hMe⟩ := hupi.mounted (mul := mul) hrk e.g
    have hdev := hsingle e he e' he' (hcts.symm.trans hts'.symm) (mem_belowList_of_mounted hd hMe)
    rw [hdev, Up, get?_reverseRigs_eq_none.mpr htop] at hupi
    obtain ⟨_, p, gx, h2, _⟩ := hupi
    cases h2

/-- the listing used by the code: `flatten(trajectories, is_sorted=True)`, sorted by (timestamp, device) -/
def keyLe (a b : Entry G) : Bool := a.ts < b.ts || (a.ts == b.ts && !(b.dev < a.dev))

def sortEntries (t : List (Entry G)) : List (Entry G) := t.mergeSort keyLe

theorem mem_sortEntries (l : List (Entry G)) (c : Entry G) : c ∈ sortEntries l ↔ c ∈ l := List.mem_mergeSort

/-! ### the loop with its early exit -/

/-- rigs_recover_inplace: at most `k` passes, stopping at the first pass without a job -/
def recoverLoop (mul : G → G → G) (inv : G → G) (rigs : Rigs G) (masters : Option (List String))
    (σ : List (Entry G) → List (Entry G)) : Nat → List (Entry G) → List (Entry G)
  | 0, t => t
  | k + 1, t =>
    if hasMemberEntry inv rigs t then recoverLoop mul inv rigs masters σ k (recoverStep mul inv rigs masters (σ t))
    else t

theorem recoverStep_no_member {s : List (Entry G)} (h : ∀ e ∈ s, Dict.get? e.dev (reverseRigs inv rigs) = none) :
    recoverStep mul inv rigs masters s = s := by
  rw [recoverStep_eq]
  exact List.foldlRecOn (motive := (· = s)) s _ rfl fun cur hcur e he => (recJobM_none cur (h e he)).trans hcur

theorem mem_recoverIter_no_member (hσ : ∀ l c, c ∈ σ l ↔ c ∈ l) (k : Nat) {t : List (Entry G)}
    (h : ∀ e ∈ t, Dict.get? e.dev (reverseRigs inv rigs) = none) (c : Entry G) :
    c ∈ recoverIter mul inv rigs masters σ k t ↔ c ∈ t := by
  induction k generalizing t with
  | zero => exact Iff.rfl
  | succ k ih =>
    have hs : ∀ e ∈ σ t, Dict.get? e.dev (reverseRigs inv rigs) = none := fun e he => h e ((hσ t e).mp he)
    rw [recoverIter, recoverStep_no_member hs, ih hs]
    exact hσ t c

theorem mem_recoverLoop (hσ : ∀ l c, c ∈ σ l ↔ c ∈ l) (k : Nat) (t : List (Entry G)) (c : Entry G) :
    c ∈ recoverLoop mul inv rigs masters σ k t ↔ c ∈ recoverIter mul inv rigs masters σ k t := by
  induction k generalizing t with
  | zero => exact Iff.rfl
  | succ k ih =>
    unfold recoverLoop
    split
    · exact ih _
    · next hh =>
      exact (mem_recoverIter_no_member hσ (k + 1) (fun e he => Option.not_isSome_iff_eq_none.mp
        (List.any_eq_false.mp (Bool.eq_false_iff.mpr hh) e he)) c).symm

end Kapture.C06
