/-
  Lemmas/C13Text.lean — the text layer of the COLMAP reconstruction files (Model/C13Text.lean).
  On a line of tokens joined by single blanks the tokeniser's split is `split(' ')`, so the line lemmas are those of the
  comma codec (Lemmas/Csv.lean); a file of two lines per item is read back through one layout lemma.
-/
import Kapture.Lemmas.Csv
import Kapture.Model.C13Text

namespace Kapture.C13Text
open Kapture.Csv

/-- a token: non-empty, without comma or blank -/
def TokenOK (t : Str) : Prop := t ≠ [] ∧ ∀ c ∈ t, isSep c = false

/-- an image name the format can carry: one or more tokens separated by single spaces -/
def NameOK (name : Str) : Prop := ∃ words, words ≠ [] ∧ (∀ w ∈ words, TokenOK w) ∧ name = spaceJoin words

/-- a line that `readlines()` gives back whole and the comment filter keeps -/
def DataLine (l : Str) : Prop := isComment l = false ∧ '\n' ∉ l

/-! ### one line -/

theorem splitSep_ne_nil (s : Str) : splitSep s ≠ [] := by
  fun_cases splitSep s <;> simp [*]

theorem splitSep_eq_splitOnChar (s : Str) (h : ∀ c ∈ s, isSep c = true → c = ' ') :
    splitSep s = splitOnChar ' ' s := by
  induction s with
  | nil => rfl
  | cons x xs ih =>
    have ih := ih (fun c hc => h c (List.mem_cons_of_mem _ hc))
    unfold splitSep splitOnChar
    by_cases hx : isSep x = true
    · rw [if_pos hx, if_pos (h x List.mem_cons_self hx), ih]
    · rw [if_neg hx, if_neg (fun e => hx (by rw [e]; decide)), ih]
      rfl

theorem joinWith_cons_cons (sep p : Str) (q : Str) (t : List Str) : joinWith sep (p :: q :: t) = p ++ sep ++ joinWith sep (q :: t) := rfl

theorem spaceJoin_append_words (pre words : List Str) (hw : words ≠ []) :
    spaceJoin (pre ++ [spaceJoin words]) = spaceJoin (pre ++ words) := by
  cases pre with
  | nil => rfl
  | cons p t =>
    unfold spaceJoin
    rw [joinWith_append _ _ _ (List.cons_ne_nil _ _) (List.cons_ne_nil _ _), joinWith_append _ _ _ (List.cons_ne_nil _ _) hw]
    rfl

theorem sep_of_mem_spaceJoin {ps : List Str} (h : ∀ p ∈ ps, TokenOK p) (c : Char) (hc : c ∈ spaceJoin ps)
    (hs : isSep c = true) : c = ' ' := by
  rcases mem_joinWith _ _ _ hc with hc | ⟨p, hp, hc⟩
  · exact List.mem_singleton.1 hc
  · rw [(h p hp).2 c hc] at hs; cases hs

theorem tokenOK_showInt (i : Int) : TokenOK (showInt i) := by
  refine ⟨showInt_ne_nil i, fun c hc => ?_⟩
  have := (showInt_chars i c hc).facts
  unfold isSep
  simp [this.ne_comma, this.not_space]

theorem rstrip_eq_self (init : Str) (c : Char) (hc : isPySpace c = false) : rstrip (init ++ [c]) = init ++ [c] := by
  unfold rstrip
  rw [List.reverse_append, List.reverse_singleton, List.singleton_append,
    List.dropWhile_cons_of_neg (Bool.eq_false_iff.mp hc), List.reverse_cons, List.reverse_reverse]

theorem rstrip_spaceJoin {ps : List Str} (h : ∀ p ∈ ps, TokenOK p) : rstrip (spaceJoin ps) = spaceJoin ps := by
  rcases List.eq_nil_or_concat ps with rfl | ⟨pre, w, rfl⟩
  · rfl
  rw [List.concat_eq_append] at h ⊢
  obtain ⟨hne, hw⟩ := h w (by simp)
  obtain ⟨init, c, rfl⟩ := (List.eq_nil_or_concat w).resolve_left hne
  rw [List.concat_eq_append] at hw ⊢
  -- the line ends with `c`, the last character of its last token, and `c` is no blank
  obtain ⟨front, hf⟩ : ∃ front, spaceJoin (pre ++ [init ++ [c]]) = front ++ [c] := by
    cases pre with
    | nil => exact ⟨init, rfl⟩
    | cons p t =>
      exact ⟨_, (joinWith_append _ _ _ (List.cons_ne_nil _ _) (List.cons_ne_nil _ _)).trans (List.append_assoc _ _ _).symm⟩
  rw [hf, rstrip_eq_self front c (Bool.or_eq_false_iff.1 (hw c (by simp))).2]

theorem dataLine_spaceJoin {ps : List Str} (h : ∀ p ∈ ps, TokenOK p) (hh : ∀ p ∈ ps.head?, p.head? ≠ some '#') :
    DataLine (spaceJoin ps) := by
  refine ⟨?_, fun hm => absurd (sep_of_mem_spaceJoin h _ hm (by decide)) (by decide)⟩
  cases ps with
  | nil => rfl
  | cons p t =>
    unfold isComment spaceJoin
    rw [head?_joinWith _ _ _ (h p List.mem_cons_self).1]
    exact beq_eq_false_iff_ne.2 (hh p rfl)

/-! ### the lines of images.txt -/

theorem imageLine_spaceJoin {id cam : Int} {pose words : List Str} (hw : words ≠ []) :
    imageLine id pose cam (spaceJoin words) = spaceJoin (showInt id :: (pose ++ showInt cam :: words)) := by
  have := spaceJoin_append_words (showInt id :: (pose ++ [showInt cam])) words hw
  simpa [imageLine, List.append_assoc] using this

theorem imageLine_tokens (id cam : Int) {pose words : List Str} (hp : ∀ f ∈ pose, TokenOK f)
    (hw : ∀ w ∈ words, TokenOK w) : ∀ f ∈ showInt id :: (pose ++ showInt cam :: words), TokenOK f := by
  simp only [List.forall_mem_append, List.forall_mem_cons]
  exact ⟨tokenOK_showInt id, hp, tokenOK_showInt cam, hw⟩

theorem dataLine_imageLine (id cam : Int) {pose : List Str} {name : Str} (hp : ∀ f ∈ pose, TokenOK f) (hn : NameOK name) :
    DataLine (imageLine id pose cam name) := by
  obtain ⟨words, hw, hwt, rfl⟩ := hn
  rw [imageLine_spaceJoin hw]
  refine dataLine_spaceJoin (imageLine_tokens id cam hp hwt) (fun p hp hh => ?_)
  cases hp
  exact (showInt_chars id _ (List.mem_of_mem_head? hh)).facts.ne_hash rfl

theorem dataLine_points2dLine {p2d : List (Str × Str × Str)}
    (h : ∀ p ∈ p2d, TokenOK p.1 ∧ TokenOK p.2.1 ∧ TokenOK p.2.2 ∧ p.1.head? ≠ some '#') : DataLine (points2dLine p2d) := by
  refine dataLine_spaceJoin ?_ (fun f hf => ?_)
  · simp only [List.forall_mem_flatMap, List.forall_mem_cons, List.not_mem_nil, false_imp_iff, implies_true, and_true]
    exact fun p hp => ⟨(h p hp).1, (h p hp).2.1, (h p hp).2.2.1⟩
  · cases p2d with
    | nil => cases hf
    | cons p ps => cases hf; exact (h p List.mem_cons_self).2.2.2

theorem imagesHeaderLines_comment (n : Nat) : ∀ l ∈ imagesHeaderLines n, isComment l = true ∧ '\n' ∉ l := by
  unfold imagesHeaderLines
  repeat rw [String.toList_ofList]
  simp only [List.forall_mem_cons, List.not_mem_nil, false_imp_iff, implies_true, and_true]
  refine ⟨by decide, by decide, by decide, rfl, fun hm => ?_⟩
  rcases List.mem_append.1 hm with hm | hm
  · revert hm; decide
  · exact (showInt_chars _ _ hm).facts.ne_lf rfl

/-- the importer's `fields[0:9] + [' '.join(fields[9:])]`, once the tokens of the line are known -/
theorem decodeImageLine_of_tokens {line tid tcam : Str} {id cam : Int} {pose words : List Str} (hp : pose.length = 7)
    (h : tokens (rstrip line) = tid :: (pose ++ tcam :: words)) (hid : readInt tid = some id)
    (hcam : readInt tcam = some cam) : decodeImageLine line = some (id, pose, cam, spaceJoin words) := by
  have hlen : ¬ (tid :: (pose ++ tcam :: words)).length < 9 := by
    rw [List.length_cons, List.length_append, List.length_cons, hp]; omega
  have h8 : (pose ++ tcam :: words).getD 7 [] = tcam := by
    rw [← hp, List.getD_eq_getElem?_getD, List.getElem?_append_right (Nat.le_refl _), Nat.sub_self]; rfl
  have hd : List.drop (7 + 1) (pose ++ tcam :: words) = words := by
    rw [← List.drop_drop, List.drop_left' hp]; rfl
  unfold decodeImageLine
  simp only [h]
  rw [if_neg hlen, List.getD_cons_zero, List.getD_cons_succ, h8, hid, hcam, List.drop_succ_cons, List.drop_zero,
    List.take_left' hp, List.drop_succ_cons, hd]

/-! ### files -/

theorem splitOnChar_unlines (ls : List Str) (h : ∀ l ∈ ls, '\n' ∉ l) : splitOnChar '\n' (unlines ls) = ls ++ [[]] := by
  induction ls with
  | nil => rfl
  | cons l t ih =>
    unfold unlines at ih ⊢
    simp only [List.flatMap_cons, List.append_assoc, List.singleton_append]
    rw [splitOnChar_append_sep '\n' l _ (h l (by simp)), ih (fun l' hl' => h l' (List.mem_cons_of_mem _ hl'))]
    rfl

theorem linesOf_unlines (ls : List Str) (h : ∀ l ∈ ls, '\n' ∉ l) : linesOf (unlines ls) = ls := by
  unfold linesOf
  rw [splitOnChar_unlines ls h]
  simp

theorem everyOther_flatMap_pair {α : Type} (a b : α → Str) (es : List α) :
    everyOther (es.flatMap fun e => [a e, b e]) = es.map a := by
  induction es with
  | nil => rfl
  | cons e t ih => simp only [List.flatMap_cons, List.cons_append, List.nil_append, everyOther, ih, List.map_cons]

theorem firstLines_unlines {α : Type} (hdr : List Str) (a b : α → Str) (es : List α)
    (hh : ∀ l ∈ hdr, isComment l = true ∧ '\n' ∉ l) (hd : ∀ e ∈ es, DataLine (a e) ∧ DataLine (b e)) :
    everyOther ((linesOf (unlines (hdr ++ es.flatMap fun e => [a e, b e]))).filter fun l => !isComment l) = es.map a := by
  have hdata : ∀ l ∈ es.flatMap (fun e => [a e, b e]), DataLine l := by
    simpa only [List.forall_mem_flatMap, List.forall_mem_cons, List.not_mem_nil, false_imp_iff, implies_true, and_true]
      using hd
  rw [linesOf_unlines, List.filter_append, List.filter_eq_nil_iff.2, List.nil_append, List.filter_eq_self.2,
    everyOther_flatMap_pair]
  · exact fun l hl => by rw [(hdata l hl).1]; rfl
  · exact fun l hl => by rw [(hh l hl).1]; decide
  · intro l hl
    rcases List.mem_append.1 hl with hl | hl
    · exact (hh l hl).2
    · exact (hdata l hl).2

end Kapture.C13Text
