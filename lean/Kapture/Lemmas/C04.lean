/-
  Lemmas/C04.lean — specification-side definitions, `loadDir` inverted, membership in its filters, the version parser on literals.
-/
import Kapture.Model.C04
import Std.Data.String.ToNat

namespace Kapture.C04

/-- the images the loaded dataset knows: the paths of the loaded camera records -/
def loadedImages (l : Loaded) : List String :=
  (((l.records.find? (fun kr => kr.1 == "records_camera")).map (·.2)).getD []).map (·.2.2)

def declaredOfType (d : Dir) (id ty : String) : Prop := ∃ rest, (id, ty, rest) ∈ d.sensors

def isRigId (d : Dir) (id : String) : Prop := ∃ r, r ∈ d.rigs.getD [] ∧ r.1 = id

/-- the member filter of `loadRigs` -/
def rigKeep (d : Dir) (rows : List (String × String × Tok)) (r : String × String × Tok) : Bool :=
  (sensorIds d).contains r.2.1 || (rows.map (·.1)).contains r.2.1

theorem loadRigs_eq (d : Dir) (rows : List (String × String × Tok)) :
    loadRigs d rows = if rows.any (fun r => (sensorIds d).contains r.1) then Except.error Err.collision
      else Except.ok (rows.filter (rigKeep d rows)) := rfl

theorem loadRigsOpt_ok {d : Dir} {o rigs : Option (List (String × String × Tok))}
    (h : (match o with
      | none => Except.ok none
      | some rows => (loadRigs d rows).map some) = Except.ok rigs) :
    (∀ rows, o = some rows → rows.any (fun r => (sensorIds d).contains r.1) = false) ∧
      rigs = o.map (fun rows => rows.filter (rigKeep d rows)) := by
  cases o with
  | none => cases h; exact ⟨nofun, rfl⟩
  | some rows =>
    change Except.map some (loadRigs d rows) = _ at h
    rw [loadRigs_eq] at h
    split at h
    · cases h
    · cases h
      exact ⟨fun _ hh => Option.some.inj hh ▸ Bool.eq_false_iff.2 ‹_›, rfl⟩

/-- what a successful `loadDir` returned -/
structure LoadedFrom (cur : String) (d : Dir) (l : Loaded) : Prop where
  version : d.version = some l.version
  notNewer : versionGt l.version cur = false
  sensors : l.sensors = d.sensors
  noCollision : ∀ rows, d.rigs = some rows → rows.any (fun r => (sensorIds d).contains r.1) = false
  rigs : l.rigs = d.rigs.map fun rows => rows.filter (rigKeep d rows)
  trajectories : l.trajectories = d.trajectories.map (filterDevices (sensorIds d ++ (d.rigs.getD []).map (·.1)))
  records : l.records = loadRecords d
  recon :
    (l.version ≠ cur ∧ l.keypoints = none ∧ l.descriptors = none ∧ l.globalFeatures = none ∧ l.matchSets = none ∧
        l.points3d = none ∧ l.observations = none) ∨
    (l.version = cur ∧ l.keypoints = loadFeatures (loadedImages l) d.keypoints ∧
        l.descriptors = loadFeatures (loadedImages l) d.descriptors ∧
        l.globalFeatures = loadFeatures (loadedImages l) d.globalFeatures ∧
        l.matchSets = loadMatches (loadedImages l) d.matchSets ∧ l.points3d = d.points3d ∧
        ((d.observations = none ∧ l.observations = none) ∨
         ∃ k rows, l.keypoints = some k ∧ d.observations = some rows ∧
           l.observations = some (loadObservations k rows)))

theorem loadDir_ok {cur : String} {d : Dir} {l : Loaded} : loadDir cur d = Except.ok l → LoadedFrom cur d l := by
  fun_cases loadDir cur d
  -- five leaves return an error; the three successful ones share the sensors side and are, in the order of the bullets,
  -- 4 an older version (no reconstruction is read), 6 no observations file, 7 observations with keypoints and 3-D points
  case case1 | case2 | case3 | case5 | case8 => nofun
  all_goals
    intro h
    obtain rfl := Except.ok.inj h
    obtain ⟨h1, h2⟩ := loadRigsOpt_ok ‹_ = Except.ok _›
    refine ⟨‹d.version = some _›, Bool.eq_false_iff.2 ‹¬versionGt _ cur = true›, rfl, h1, h2, rfl, rfl, ?_⟩
  · exact Or.inl ⟨bne_iff_ne.1 ‹_›, rfl, rfl, rfl, rfl, rfl, rfl⟩
  · exact Or.inr ⟨Decidable.not_not.1 (mt bne_iff_ne.2 ‹_›), rfl, rfl, rfl, rfl, rfl, Or.inl ⟨‹_›, rfl⟩⟩
  · exact Or.inr ⟨Decidable.not_not.1 (mt bne_iff_ne.2 ‹_›), rfl, rfl, rfl, rfl, rfl, Or.inr ⟨_, _, ‹_›, ‹_›, rfl⟩⟩

theorem mem_idsOfType {d : Dir} {id ty : String} : id ∈ idsOfType d ty ↔ declaredOfType d id ty := by
  unfold idsOfType declaredOfType
  simp only [List.mem_map, List.mem_filter, beq_iff_eq]
  constructor
  · rintro ⟨⟨a, b, c⟩, ⟨hs, rfl⟩, rfl⟩
    exact ⟨c, hs⟩
  · rintro ⟨rest, hs⟩
    exact ⟨(id, ty, rest), ⟨hs, rfl⟩, rfl⟩

theorem mem_filterDevices {ids : List String} {rows : List (Int × String × Tok)} {r : Int × String × Tok} :
    r ∈ filterDevices ids rows ↔ r ∈ rows ∧ r.2.1 ∈ ids := by
  simp [filterDevices]

theorem mem_loadRecords {d : Dir} {kind : String} {rows' : List (Int × String × Tok)} :
    (kind, rows') ∈ loadRecords d ↔ ∃ rows ty, (kind, rows) ∈ d.records ∧
      kindOfRecords.find? (fun e => e.1 == kind) = some (kind, ty) ∧
      (kind == "records_gnss" && (idsOfType d ty).isEmpty) = false ∧ rows' = filterDevices (idsOfType d ty) rows := by
  rw [loadRecords, List.mem_filterMap]
  constructor
  · rintro ⟨⟨k, rows⟩, hmem, hsome⟩
    dsimp only at hsome
    split at hsome
    · cases hsome
    · next e he =>
      obtain ⟨e1, ty⟩ := e
      obtain rfl : e1 = k := by simpa using List.find?_some he
      split at hsome
      · cases hsome
      · next hg =>
        cases hsome
        exact ⟨rows, ty, hmem, he, Bool.eq_false_iff.2 hg, rfl⟩
  · rintro ⟨rows, ty, hk, hty, hne, rfl⟩
    exact ⟨(kind, rows), hk, by simp only [hty, hne, Bool.false_eq_true, if_false]⟩

theorem loadFeatures_some {images : List String} {c : Option (List (String × Tok × List String))}
    {ts : List (String × Tok × List String)} (h : loadFeatures images c = some ts) :
    ∃ ds, c = some ds ∧ ts = ds.map (fun t => (t.1, t.2.1, t.2.2.filter (fun n => images.contains n))) := by
  unfold loadFeatures at h
  split at h
  · cases h
  · cases h
  · cases h
    exact ⟨_, rfl, rfl⟩

theorem loadMatches_some {images : List String} {c : Option (List (String × List (String × String)))}
    {ts : List (String × List (String × String))} (h : loadMatches images c = some ts) :
    ∃ ds, c = some ds ∧
      ts = ds.map (fun t => (t.1, t.2.filter (fun p => images.contains p.1 && images.contains p.2))) := by
  unfold loadMatches at h
  split at h
  · cases h
  · cases h
  · cases h
    exact ⟨_, rfl, rfl⟩

theorem mem_loadObservations {kps : List (String × Tok × List String)} {rows : List (Int × String × String × Int)}
    {o : Int × String × String × Int} :
    o ∈ loadObservations kps rows ↔
      (o ∈ rows ∧ ∃ cfg names, kps.find? (fun t => t.1 == o.2.1) = some (o.2.1, cfg, names) ∧ o.2.2.1 ∈ names) := by
  rw [loadObservations, List.mem_filter]
  refine and_congr_right fun _ => ?_
  cases ht : kps.find? (fun t => t.1 == o.2.1) with
  | none => simp
  | some t =>
    obtain ⟨t1, cfg, names⟩ := t
    obtain rfl : t1 = o.2.1 := by simpa using List.find?_some ht
    have hne : (!names.isEmpty && names.contains o.2.2.1) = names.contains o.2.2.1 := by cases names <;> rfl
    show (!names.isEmpty && names.contains o.2.2.1) = true ↔ _
    rw [hne, List.contains_iff_mem]
    exact ⟨fun h => ⟨cfg, names, rfl, h⟩, by rintro ⟨_, _, ⟨⟩, h⟩; exact h⟩

theorem isRigId_iff {d : Dir} {id : String} : isRigId d id ↔ id ∈ (d.rigs.getD []).map (·.1) :=
  List.mem_map.symm

/-! ### the version parser on literals

`String.splitOn` is a well-founded recursion, which `decide` does not unfold: `splitDot s fuel b i r` is
`s.splitOnAux "." b i 0 r` by recursion on a number of steps. -/

section Version
open String

def splitDot (s : String) : Nat → Pos.Raw → Pos.Raw → List String → List String
  | 0, b, i, r => ((b.extract s i) :: r).reverse
  | fuel + 1, b, i, r =>
    if i.atEnd s then ((b.extract s i) :: r).reverse
    else if i.get s == '.' then splitDot s fuel (i.next s) (i.next s) (b.extract s ((i.next s).unoffsetBy ⟨1⟩) :: r)
    else splitDot s fuel b (i.next s) r

theorem splitOnAux_dot (s : String) (fuel : Nat) (b i : Pos.Raw) (r : List String) (h : s.utf8ByteSize ≤ i.byteIdx + fuel) :
    s.splitOnAux "." b i 0 r = splitDot s fuel b i r := by
  have hsep : Pos.Raw.get "." 0 = '.' ∧ Pos.Raw.next "." 0 = ⟨1⟩ := by decide
  have hnext (i : Pos.Raw) (f : Nat) (h : s.utf8ByteSize ≤ i.byteIdx + (f + 1)) : s.utf8ByteSize ≤ (i.next s).byteIdx + f := by
    have := Pos.Raw.byteIdx_lt_byteIdx_next s i
    omega
  fun_induction splitDot s fuel b i r with
  | case1 b i r =>
    have hend : i.atEnd s = true := decide_eq_true (h : s.utf8ByteSize ≤ i.byteIdx)
    rw [String.splitOnAux, if_pos hend]
  | case2 fuel b i r hend => rw [String.splitOnAux, if_pos hend]
  | case3 fuel b i r hend hc ih =>
    rw [String.splitOnAux, if_neg hend, hsep.1, if_pos hc]
    rw [hsep.2, if_pos (by decide)]
    exact ih (hnext i fuel h)
  | case4 fuel b i r hend hc ih =>
    rw [String.splitOnAux, if_neg hend, hsep.1, if_neg hc]
    exact ih (hnext i fuel h)

theorem splitOn_dot (s : String) : s.splitOn "." = splitDot s s.utf8ByteSize 0 0 [] := by
  rw [String.splitOn, if_neg (by decide), splitOnAux_dot s _ 0 0 [] (Nat.le_add_left _ _)]

/-- the hypothesis is decidable by evaluation when the strings are literals -/
theorem parseVersion_eq (v b : String) (m : Nat)
    (h : splitDot v v.utf8ByteSize 0 0 [] = [m.repr, b] ∧ b.isEmpty = false ∧ b.toList.all Char.isDigit = true) :
    parseVersion v = some (m, b.toList.map (fun c => c.toNat - 48)) := by
  obtain ⟨hs, hne, hd⟩ := h
  rw [parseVersion, splitOn_dot, hs]
  simp only [Nat.toNat?_repr, hne, String.all_bool_eq, hd]
  rfl

end Version

end Kapture.C04
