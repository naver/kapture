/-
  Lemmas/C01Points.lean — arithmetic of the fixed-point number format of points3d.txt.
-/
import Kapture.Model.C01Points
import Mathlib.Data.Rat.Floor

namespace Kapture.C01

theorem scale_pos (d : Nat) : (0 : Rat) < scale d := Nat.cast_pos.2 (Nat.pow_pos (by decide))

theorem nearest_iff_abs (d : Nat) (x : Rat) (n : Int) : Nearest d x n ↔ |x * scale d - (n : Rat)| ≤ 1 / 2 := by
  unfold Nearest
  rw [abs_le]

theorem nearest_round (d : Nat) (x : Rat) : Nearest d x (round (x * scale d)) := by
  rw [nearest_iff_abs]
  exact abs_sub_round _

theorem nearest_within (d : Nat) (x : Rat) (n : Int) (h : Nearest d x n) : |x - readUnits d n| ≤ 1 / (2 * scale d) := by
  rw [nearest_iff_abs] at h
  have hpos := scale_pos d
  -- x - n / s = (x * s - n) / s, and the bound is (1 / 2) / s
  rw [readUnits, ← div_div, ← mul_div_cancel_right₀ x hpos.ne', ← sub_div, abs_div, abs_of_pos hpos]
  exact div_le_div_of_nonneg_right h hpos.le

theorem nearest_of_units (d : Nat) (m n : Int) (h : Nearest d (readUnits d m) n) : n = m := by
  rw [nearest_iff_abs, readUnits, div_mul_cancel₀ _ (scale_pos d).ne', ← Int.cast_sub, ← Int.cast_abs] at h
  -- an integer of absolute value at most 1 / 2 is 0
  have h3 : |m - n| < 1 := Int.cast_lt (R := Rat).1 (by rw [Int.cast_one]; exact lt_of_le_of_lt h one_half_lt_one)
  exact (sub_eq_zero.1 (Int.abs_lt_one_iff.1 h3)).symm

end Kapture.C01
