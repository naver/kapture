/-
  Lemmas/C19.lean — the specification of C19, with the side conditions `WF` on the tables, and what ties the code's lists to
  it: `keepCsv` and `keepFeat` are one function of the two tables' types (`mem_keep`), so that under `WF` a path is a candidate
  exactly when its part is selected (`mem_candidates`) and `mustKeep` is `needs`; the sorted set has no duplicates.
-/
import Kapture.Model.C19

namespace Kapture.C19

/-- is the part of type `t` selected for deletion by the only/skip arguments? (`only` wins when both are given) -/
def sel (a : Args) (t : String) : Bool :=
  if !a.only.isEmpty then a.only.contains t else !a.skip.contains t

/-- some part that is NOT selected (so it is kept) stores its record values as files under records_data -/
def needs (T : Tables) (a : Args) : Bool := T.storesFiles.any (fun t => !sel a t)

/-- the property's wording: the paths selected by only/skip — the text file of a selected part, the feature folder of
  a selected feature kind, and the record-data folder unless a kept part needs it -/
def Selected (T : Tables) (a : Args) (p : String) : Prop :=
  (∃ t, (t, p) ∈ T.csvFiles ∧ sel a t = true) ∨
  (∃ t, (t, p) ∈ T.featDirs ∧ sel a t = true ∧ p ≠ T.recordsDir) ∨
  (p = T.recordsDir ∧ needs T a = false)

/-- every path the dataset format owns at top level -/
def datasetPaths (T : Tables) : List String := T.csvFiles.map (·.2) ++ T.featDirs.map (·.2) ++ [T.recordsDir]

/-- facts about the tables that the argument relies on (checked on the GENERATED tables by `decide`) -/
structure WF (T : Tables) : Prop where
  stores_csv : ∀ t ∈ T.storesFiles, t ∈ csvTypes T
  disjoint : ∀ t ∈ csvTypes T, t ∉ featTypes T
  rec_not_csv : ∀ e ∈ T.csvFiles, e.2 ≠ T.recordsDir

theorem mem_insertS {x z : String} {l : List String} : z ∈ insertS x l ↔ z = x ∨ z ∈ l := by
  fun_induction insertS x l <;> simp [*, or_left_comm]

theorem mem_sortS {z : String} {l : List String} : z ∈ sortS l ↔ z ∈ l := by
  induction l with
  | nil => simp [sortS]
  | cons y ys ih => rw [sortS, List.foldr_cons, mem_insertS, ← sortS, ih, List.mem_cons]

/-- `insertS` only ever puts `x` in front of a greater element, and the order of strings is total -/
theorem pairwise_insertS {x : String} {l : List String} (h : l.Pairwise (· < ·)) :
    (insertS x l).Pairwise (· < ·) := by
  fun_induction insertS x l
  case case1 => simp
  case case2 => exact h
  case case3 y ys _ hlt =>
    exact List.pairwise_cons.mpr ⟨fun z hz => (List.mem_cons.mp hz).elim (· ▸ hlt) fun hz =>
      String.lt_trans hlt (List.rel_of_pairwise_cons h hz), h⟩
  case case4 y ys hne hlt ih =>
    rw [List.pairwise_cons] at h ⊢
    refine ⟨fun z hz => ?_, ih h.2⟩
    rcases mem_insertS.mp hz with rfl | hz
    · exact String.not_le.mp fun hle => hne (String.le_antisymm hle hlt)
    · exact h.1 z hz

theorem pairwise_sortS (l : List String) : (sortS l).Pairwise (· < ·) := by
  induction l with
  | nil => exact .nil
  | cons y ys ih => exact pairwise_insertS ih

theorem nodup_existing (T : Tables) (a : Args) (kind : String → Kind) : (existing T a kind).Nodup :=
  List.pairwise_reverse.mpr ((pairwise_sortS _).imp fun hab => (String.ne_of_lt hab).symm)

theorem mem_existing {T : Tables} {a : Args} {kind : String → Kind} {p : String} :
    p ∈ existing T a kind ↔ (p ∈ candidates T a ∧ (kind p).lexists = true) := by
  simp [existing, mem_sortS, List.mem_filter]

theorem mem_toDelete {T : Tables} {a : Args} {kind : String → Kind} {p : String} :
    p ∈ toDelete T a kind ↔
      (p ∈ candidates T a ∧ (kind p).lexists = true ∧ ¬ (mustKeep T a = true ∧ p = T.recordsDir)) := by
  unfold toDelete
  dsimp only
  rw [← and_assoc, ← mem_existing]
  split
  · next h =>
    rw [Bool.and_eq_true] at h
    simp [(nodup_existing T a kind).mem_erase_iff, h.1, and_comm]
  · next h =>
    rw [Bool.and_eq_true, List.contains_iff_mem] at h
    exact ⟨fun hp => ⟨hp, fun hk => h ⟨hk.1, hk.2 ▸ hp⟩⟩, And.left⟩

theorem mem_keep (a : Args) (own other : List String) (t : String) :
    t ∈ (if !a.only.isEmpty then own.filter (fun t => !a.only.contains t)
         else if !a.skip.isEmpty then a.skip.filter (fun t => !other.contains t) else []) ↔
      sel a t = false ∧ (if a.only = [] then t ∉ other else t ∈ own) := by
  unfold sel
  by_cases ho : a.only = []
  · by_cases hs : a.skip = [] <;> simp [ho, hs, and_comm]
  · simp [ho, and_comm]

theorem mem_keepCsv {T : Tables} (hT : WF T) (a : Args) {t : String} (ht : t ∈ csvTypes T) :
    (t ∈ keepCsv T a ↔ sel a t = false) ∧ t ∉ keepFeat T a := by
  have hd := hT.disjoint t ht
  constructor
  · exact (mem_keep a _ _ t).trans (by simp [ht, hd])
  · exact fun h => by simpa [ht, hd] using ((mem_keep a _ _ t).mp h).2

theorem mem_keepFeat {T : Tables} (hT : WF T) (a : Args) {t : String} (ht : t ∈ featTypes T) :
    t ∈ keepFeat T a ↔ sel a t = false := by
  have hd : t ∉ csvTypes T := fun h => hT.disjoint t h ht
  exact (mem_keep a _ _ t).trans (by simp [ht, hd])

theorem mem_map_snd_filter {l : List (String × String)} {keep : List String} {p : String} :
    p ∈ (l.filter (fun e => !keep.contains e.1)).map (·.2) ↔ ∃ t, (t, p) ∈ l ∧ t ∉ keep := by
  constructor
  · intro h
    obtain ⟨e, he, rfl⟩ := List.mem_map.mp h
    rw [List.mem_filter] at he
    exact ⟨e.1, he.1, by simpa using he.2⟩
  · rintro ⟨t, ht, hk⟩
    exact List.mem_map.mpr ⟨(t, p), List.mem_filter.mpr ⟨ht, by simpa using hk⟩, rfl⟩

theorem mem_candidates {T : Tables} (hT : WF T) {a : Args} {p : String} :
    p ∈ candidates T a ↔
      ((∃ t, (t, p) ∈ T.csvFiles ∧ sel a t = true) ∨ (∃ t, (t, p) ∈ T.featDirs ∧ sel a t = true) ∨
        p = T.recordsDir) := by
  rw [candidates, List.mem_append, List.mem_append, mem_map_snd_filter, mem_map_snd_filter, List.mem_singleton, or_assoc]
  refine or_congr (exists_congr fun t => and_congr_right fun h => ?_)
    (or_congr_left (exists_congr fun t => and_congr_right fun h => ?_))
  · simp [(mem_keepCsv hT a (List.mem_map_of_mem (f := (·.1)) h)).1]
  · simp [mem_keepFeat hT a (List.mem_map_of_mem (f := (·.1)) h)]

theorem mustKeep_eq_needs {T : Tables} (hT : WF T) (a : Args) : mustKeep T a = needs T a := by
  rw [Bool.eq_iff_iff]
  simp only [mustKeep, needs, List.any_eq_true, List.mem_append, List.contains_iff_mem, Bool.not_eq_eq_eq_not, Bool.not_true]
  constructor
  · rintro ⟨t, hk, hs⟩
    have hc := mem_keepCsv hT a (hT.stores_csv t hs)
    exact ⟨t, hs, hc.1.mp (hk.resolve_right hc.2)⟩
  · rintro ⟨t, hs, hn⟩
    exact ⟨t, .inl ((mem_keepCsv hT a (hT.stores_csv t hs)).1.mpr hn), hs⟩

end Kapture.C19
