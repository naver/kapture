/-
  Lemmas/C13.lean — COLMAP export then import.
  The lookup of an identifier by name is the shared `Dict.get?`; the reverse lookup and those of the camera table are
  `List.find?` followed by a projection, and what is needed of them comes from the core library and `Dict.find?_key_of_mem`.
-/
import Kapture.Model.C13

namespace Kapture.C13
open Kapture.Gen.PairId

/-! ## pair-id arithmetic (over the GENERATED definitions) -/

theorem toPairId_eq (a b : Int) : toPairId a b = min a b * maxImageId + max a b := by
  unfold toPairId
  by_cases h : a > b
  · rw [decide_eq_true h, if_pos rfl, Int.min_eq_right (Int.le_of_lt h), Int.max_eq_left (Int.le_of_lt h)]
  · rw [decide_eq_false h, if_neg Bool.false_ne_true, Int.min_eq_left (Int.not_lt.1 h), Int.max_eq_right (Int.not_lt.1 h)]

theorem ofPairId_encode {lo hi : Int} (h0 : 0 ≤ hi) (h1 : hi < maxImageId) :
    ofPairId (lo * maxImageId + hi) = (lo, hi) := by
  have hpos : 0 < maxImageId := by decide
  have hx : (lo * maxImageId + hi) % maxImageId = hi := by
    rw [Int.add_comm, Int.add_mul_emod_self_right, Int.emod_eq_of_lt h0 h1]
  simp only [ofPairId, Int.fmod_eq_emod_of_nonneg _ (Int.le_of_lt hpos), Int.fdiv_eq_ediv_of_nonneg _ (Int.le_of_lt hpos),
    hx, Int.add_sub_cancel, Int.mul_ediv_cancel _ (Int.ne_of_gt hpos)]

/-! ## identifier tables -/

/-- names (keys) of an identifier table are distinct -/
def NamesNodup (ids : List (String × Int)) : Prop := (ids.map Prod.fst).Nodup

/-- identifiers (values) of an identifier table are distinct -/
def IdsNodup (ids : List (String × Int)) : Prop := (ids.map Prod.snd).Nodup

/-- every identifier is a valid colmap image id for the pair-id arithmetic -/
def IdsInRange (ids : List (String × Int)) : Prop := ∀ e ∈ ids, 0 ≤ e.2 ∧ e.2 < maxImageId

section lookups
variable {ids : List (String × Int)} {n : String} {i : Int}

/-- `colmap_image_ids` is a dict from names to identifiers -/
theorem idOf?_eq_get? (ids : List (String × Int)) (n : String) : idOf? ids n = Dict.get? n ids := by
  fun_induction idOf? ids n <;> simp [Dict.get?, *]

theorem nameOf?_eq_find? (ids : List (String × Int)) (i : Int) :
    nameOf? ids i = (ids.find? (fun e => e.2 = i)).map Prod.fst := by
  fun_induction nameOf? ids i <;> simp [*]

theorem mem_of_idOf? (h : idOf? ids n = some i) : (n, i) ∈ ids :=
  Dict.mem_of_get? (idOf?_eq_get? ids n ▸ h)

theorem mem_of_nameOf? (h : nameOf? ids i = some n) : (n, i) ∈ ids := by
  rw [nameOf?_eq_find?] at h
  obtain ⟨e, he, rfl⟩ := Option.map_eq_some_iff.1 h
  have hk : e.2 = i := by simpa using List.find?_some he
  exact hk ▸ List.mem_of_find?_eq_some he

theorem nameOf?_of_mem (h : IdsNodup ids) (hm : (n, i) ∈ ids) : nameOf? ids i = some n := by
  rw [nameOf?_eq_find?, Dict.find?_key_of_mem Prod.snd ids h (n, i) hm]
  rfl

theorem idOf?_of_mem (h : NamesNodup ids) (hm : (n, i) ∈ ids) : idOf? ids n = some i :=
  (idOf?_eq_get? ids n).trans (Dict.get?_of_mem h hm)

theorem nameOf?_idOf? (h : IdsNodup ids) (hi : idOf? ids n = some i) : nameOf? ids i = some n :=
  nameOf?_of_mem h (mem_of_idOf? hi)

theorem idOf?_nameOf? (h : NamesNodup ids) (hi : nameOf? ids i = some n) : idOf? ids n = some i :=
  idOf?_of_mem h (mem_of_nameOf? hi)

theorem idOf?_injective (h : IdsNodup ids) {a b : String} (ha : idOf? ids a = some i) (hb : idOf? ids b = some i) :
    a = b :=
  Option.some.inj ((nameOf?_idOf? h ha).symm.trans (nameOf?_idOf? h hb))

theorem exists_id (h : IdsNodup ids) (hn : n ∈ ids.map Prod.fst) : ∃ i, idOf? ids n = some i ∧ nameOf? ids i = some n := by
  obtain ⟨i, hi⟩ := Option.isSome_iff_exists.1 ((Dict.mem_keys_iff n ids).1 hn)
  rw [← idOf?_eq_get?] at hi
  exact ⟨i, hi, nameOf?_idOf? h hi⟩

end lookups

/-! ### sequential assignment -/

theorem assignFrom_fst (names : List String) (k : Int) : (assignFrom k names).map Prod.fst = names := by
  fun_induction assignFrom k names <;> simp [*]

theorem assignFrom_snd (names : List String) (k : Int) :
    (assignFrom k names).map Prod.snd = (List.range names.length).map (fun j : Nat => k + (j : Int)) := by
  fun_induction assignFrom k names with
  | case1 => rfl
  | case2 k n ns ih =>
    rw [List.map_cons, ih, List.length_cons, List.range_succ_eq_map, List.map_cons, List.map_map]
    simp [Function.comp_def, Int.add_assoc, Int.add_comm 1]

theorem assignIds_names (names : List String) : (assignIds names).map Prod.fst = names := assignFrom_fst names 1

theorem assignIds_idsNodup (names : List String) : IdsNodup (assignIds names) := by
  unfold IdsNodup assignIds
  rw [assignFrom_snd, List.Nodup, List.pairwise_map]
  exact List.pairwise_lt_range.imp (fun h => by omega)

theorem assignIds_namesNodup (names : List String) (h : names.Nodup) : NamesNodup (assignIds names) := by
  unfold NamesNodup; rw [assignIds_names]; exact h

theorem assignIds_bounds (names : List String) : ∀ e ∈ assignIds names, 1 ≤ e.2 ∧ e.2 ≤ names.length := by
  intro e he
  obtain ⟨j, hj, hje⟩ := List.mem_map.1 (assignFrom_snd names 1 ▸ List.mem_map_of_mem he)
  have := List.mem_range.1 hj
  omega

theorem assignIds_inRange (names : List String) (h : (names.length : Int) < maxImageId) : IdsInRange (assignIds names) := by
  intro e he
  have := assignIds_bounds names e he
  omega

/-! ### the order of records -/

theorem insertBy_perm {α : Type} (lt : α → α → Bool) (x : α) (l : List α) : (insertBy lt x l).Perm (x :: l) := by
  fun_induction insertBy lt x l with
  | case1 => exact .refl _
  | case2 => exact .refl _
  | case3 y ys _ ih => exact (ih.cons y).trans (.swap x y ys)

theorem sortBy_perm {α : Type} (lt : α → α → Bool) : ∀ l : List α, (sortBy lt l).Perm l := by
  intro l
  induction l with
  | nil => exact .refl _
  | cons x xs ih => exact (insertBy_perm lt x _).trans (ih.cons x)

theorem imageOrder_perm (records : List Record) : (imageOrder records).Perm (records.map (fun r => r.2.2)) :=
  (sortBy_perm recLt records).map _

theorem imageOrder_length (records : List Record) : (imageOrder records).length = records.length :=
  (imageOrder_perm records).length_eq.trans (List.length_map _)

/-! ## matches -/

theorem lexicalOrder_of_lt {a b : String} (h : a < b) : lexicalOrder a b = (a, b) := by
  simp [lexicalOrder, h]

theorem lexicalOrder_of_gt {a b : String} (h : b < a) : lexicalOrder a b = (b, a) := by
  have : ¬ a < b := String.lt_asymm h
  simp [lexicalOrder, this]

theorem filterMap_filterMap_of_bind {α β : Type} (f : α → Option β) (g : β → Option α) (l : List α)
    (h : ∀ x ∈ l, (f x).bind g = some x) : (l.filterMap f).filterMap g = l := by
  rw [List.filterMap_filterMap]
  induction l with
  | nil => rfl
  | cons x xs ih =>
    rw [List.filterMap_cons_some (f := fun x => (f x).bind g) (h x List.mem_cons_self),
      ih fun y hy => h y (List.mem_cons_of_mem _ hy)]

/-! ## points and tracks -/

/-- what a point looks like after the loop: coordinates, then its colour or black -/
def canon6 (row : Row) : Row := row.take 3 ++ (if row.length = 6 then row.drop 3 else [zeroTok, zeroTok, zeroTok])

theorem posedIds_idsNodup {ids : List (String × Int)} (posed : List String) (h : IdsNodup ids) :
    IdsNodup (posedIds ids posed) :=
  (List.Sublist.map _ List.filter_sublist).nodup h

theorem mem_posedIds {ids : List (String × Int)} {posed : List String} {e : String × Int} :
    e ∈ posedIds ids posed ↔ e ∈ ids ∧ e.1 ∈ posed := by
  unfold posedIds
  rw [List.mem_filter, List.contains_iff_mem]

theorem track_loop {ids : List (String × Int)} (hn : IdsNodup ids) (posed : List String) (track : List (String × Nat))
    (h : ∀ o ∈ track, o.1 ∈ posed ∧ ∃ i, idOf? ids o.1 = some i) :
    ∃ tr, optMap (fun o => (idOf? ids o.1).map (fun id => (id, o.2))) track = some tr ∧
      tr.map (fun o => ((nameOf? (posedIds ids posed) o.1).getD "unknown", o.2)) = track := by
  induction track with
  | nil => exact ⟨[], rfl, rfl⟩
  | cons o os ih =>
    obtain ⟨hp, i, hi⟩ := h o List.mem_cons_self
    obtain ⟨tr, htr, hback⟩ := ih fun o' ho' => h o' (List.mem_cons_of_mem _ ho')
    have := nameOf?_of_mem (posedIds_idsNodup posed hn) (mem_posedIds.2 ⟨mem_of_idOf? hi, hp⟩)
    exact ⟨(i, o.2) :: tr, by simp [optMap, hi, htr], by simp [this, hback]⟩

theorem exportPointsFrom_loop {ids : List (String × Int)} (hn : IdsNodup ids) (posed : List String)
    (pts : List (Row × List (String × Nat))) (k : Nat)
    (h : ∀ p ∈ pts, ∀ o ∈ p.2, o.1 ∈ posed ∧ ∃ i, idOf? ids o.1 = some i) :
    ∃ lines, exportPointsFrom ids k pts = some lines ∧
      importPoints (posedIds ids posed) lines = pts.map (fun p => (canon6 p.1, p.2)) ∧
      lines.map (fun l => l.id) = List.range' k pts.length := by
  induction pts generalizing k with
  | nil => exact ⟨[], rfl, rfl, rfl⟩
  | cons p ps ih =>
    obtain ⟨row, track⟩ := p
    obtain ⟨tr, htr, hback⟩ := track_loop hn posed track (h (row, track) List.mem_cons_self)
    obtain ⟨ls, hls, himp, hid⟩ := ih (k + 1) fun p' hp' => h p' (List.mem_cons_of_mem _ hp')
    refine ⟨{ id := k, xyz := row.take 3,
               rgb := if row.length = 6 then row.drop 3 else [zeroTok, zeroTok, zeroTok], track := tr } :: ls, ?_, ?_, ?_⟩
    · simp only [exportPointsFrom, exportPoint, htr, hls]
    · rw [importPoints, List.map_cons, ← importPoints, himp]
      exact congrArg (· :: _) (Prod.ext rfl hback)
    · rw [List.map_cons, hid, List.length_cons, List.range'_succ]

/-! ## camera table -/

theorem modelIdIn_eq_find? (t : List (String × Nat × Nat)) (name : String) :
    modelIdIn t name = (t.find? (fun e => e.1 = name)).map (fun e => e.2.1) := by
  fun_induction modelIdIn t name <;> simp [*]

theorem modelNameIn_eq_find? (t : List (String × Nat × Nat)) (id : Nat) :
    modelNameIn t id = (t.find? (fun e => e.2.1 = id)).map (fun e => e.1) := by
  fun_induction modelNameIn t id <;> simp [*]

theorem paramCountIn_eq_find? (t : List (String × Nat × Nat)) (name : String) :
    paramCountIn t name = (t.find? (fun e => e.1 = name)).map (fun e => e.2.2) := by
  fun_induction paramCountIn t name <;> simp [*]

theorem table_lookup {t : List (String × Nat × Nat)} (hn : (t.map (fun e => e.1)).Nodup)
    (hi : (t.map (fun e => e.2.1)).Nodup) : ∀ e ∈ t,
    modelIdIn t e.1 = some e.2.1 ∧ modelNameIn t e.2.1 = some e.1 ∧ paramCountIn t e.1 = some e.2.2 := by
  intro e he
  rw [modelIdIn_eq_find?, modelNameIn_eq_find?, paramCountIn_eq_find?, Dict.find?_key_of_mem _ t hn e he,
    Dict.find?_key_of_mem _ t hi e he]
  exact ⟨rfl, rfl, rfl⟩

/-- what `table_lookup` and the export need of the code's camera table -/
theorem cameraModels_wf : (cameraModels.map (fun e => e.1)).Nodup ∧ (cameraModels.map (fun e => e.2.1)).Nodup ∧
    "UNKNOWN_CAMERA" ∉ cameraModels.map (fun e => e.1) := by
  decide +kernel

theorem poseOf?_of_mem_unique {K : Type} {t : Traj K} {ts : Int} {dev : String} {g : C05.Pose K}
    (hu : ∀ e ∈ t, e.ts = ts → e.dev = dev → e.g = g) (hex : ∃ e ∈ t, e.ts = ts ∧ e.dev = dev) :
    poseOf? t ts dev = some g := by
  fun_induction poseOf? t ts dev with
  | case1 => obtain ⟨e, he, _⟩ := hex; cases he
  | case2 e r ts dev hc => rw [hu e List.mem_cons_self hc.1 hc.2]
  | case3 e r ts dev hc ih =>
    refine ih (fun e' he' => hu e' (List.mem_cons_of_mem _ he')) ?_
    obtain ⟨e', he', hk⟩ := hex
    rcases List.mem_cons.1 he' with rfl | h
    · exact absurd hk hc
    · exact ⟨e', h, hk⟩

end Kapture.C13
