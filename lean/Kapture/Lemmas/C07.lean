/-
  Lemmas/C07.lean — a state is read through `abs` (the plain two-level map it stands for) under the representation invariant
  `Inv`.  The mutators make two updates of the data, read on both by `abs_set` / `abs_erase` and `inv_set` / `inv_erase`; a
  query leaves the state alone or refreshes the cache (`query_state`); runs follow from steps by `run_inv` /
  `run_outputs_eq`.  Interpolation: each scan of `interpCore` finds what `nearest` specifies (`scan_then`).  Timestamp length:
  the sampled positions exist and the last one is among them (`lengthIndexes_mem`, `lengthIndexes_last`), and the digit count
  is monotone (`digitsRef_mono`).
-/
import Kapture.Model.C07

namespace Kapture.C07
open Kapture Kapture.Sort

variable {P : Type}

/-- what a plain two-level map holds: which timestamps exist and the entry under (timestamp, device) -/
structure Abs (P : Type) where
  present : Int → Bool
  entry : Int → String → Option P

theorem Abs.ext' {a b : Abs P} (h1 : ∀ t, a.present t = b.present t) (h2 : ∀ t d, a.entry t d = b.entry t d) : a = b := by
  cases a; cases b
  simp only [Abs.mk.injEq]
  exact ⟨funext h1, funext (fun t => funext (h2 t))⟩

/-- abstraction function: forget insertion order and the cache -/
def abs (s : State P) : Abs P := ⟨fun ts => Dict.has ts s.data, entry s⟩

/-- representation invariant: keys are unique on both levels and the cache is either invalid (`[]`) or the sorted keys -/
def Inv (s : State P) : Prop :=
  (Dict.keys s.data).Nodup ∧
  (∀ ts inner, Dict.get? ts s.data = some inner → (Dict.keys inner).Nodup) ∧
  (s.cache = [] ∨ s.cache = isort (Dict.keys s.data))

/-- the sorted timestamp list is characterised by the content alone -/
def SortedKeys (a : Abs P) (l : List Int) : Prop :=
  l.Pairwise (· < ·) ∧ ∀ t, t ∈ l ↔ a.present t = true

-- plain-map semantics of the mutating operations

def Abs.setPair (a : Abs P) (ts : Int) (dev : String) (p : P) : Abs P :=
  ⟨fun t => decide (t = ts) || a.present t, fun t d => if t = ts ∧ d = dev then some p else a.entry t d⟩

def Abs.setTs (a : Abs P) (ts : Int) (inner : List (String × P)) : Abs P :=
  ⟨fun t => decide (t = ts) || a.present t,
   fun t d => if t = ts then Dict.get? d (Dict.ofList inner) else a.entry t d⟩

def Abs.delTs (a : Abs P) (ts : Int) : Abs P :=
  ⟨fun t => !decide (t = ts) && a.present t, fun t d => if t = ts then none else a.entry t d⟩

/-- deleting one entry: the entry disappears, and its timestamp disappears with it iff it held nothing else -/
def Abs.DelPair (a a' : Abs P) (ts : Int) (dev : String) : Prop :=
  (∀ t d, a'.entry t d = if t = ts ∧ d = dev then none else a.entry t d) ∧
  (∀ t, t ≠ ts → a'.present t = a.present t) ∧
  (a'.present ts = true ↔ ∃ d, d ≠ dev ∧ (a.entry ts d).isSome = true)

/-- the wording of the property for interpolation, on a plain map with sorted timestamp list `l`:
  stored pose if any; else the interpolant of the nearest earlier and the nearest later timestamps carrying the
  device, when both are within `maxI`; else nothing. -/
def interpSpec (a : Abs P) (l : List Int) (ts : Int) (dev : String) (maxI : Int) : Out P :=
  match a.entry ts dev with
  | some p => Out.pose p
  | none =>
    let lo? := (l.filter (fun t => decide (t < ts) && (a.entry t dev).isSome)).getLast?
    let up? := (l.filter (fun t => decide (t > ts) && (a.entry t dev).isSome)).head?
    match lo?, up? with
    | some lo, some up =>
      if ts - lo ≤ maxI ∧ up - ts ≤ maxI then
        match a.entry lo dev, a.entry up dev with
        | some lp, some upp => Out.interp lo lp up upp ts
        | _, _ => Out.none
      else Out.none
    | _, _ => Out.none

-- the usable neighbour on one side, the candidates `xs` listed nearest first: the first one carrying the device,
-- unless it is too far
def nearest (far has : Int → Bool) (xs : List Int) : Option Int :=
  match (xs.filter has).head? with
  | some c => if far c then none else some c
  | none => none

/-- number of decimal digits of a natural number, the reference for `num_digits` -/
def digitsRef (n : Nat) : Nat := if n < 10 then 1 else 1 + digitsRef (n / 10)

/-- `timestamp_length` on non-negative timestamps: the common digit count, or -1 -/
def tsLengthSpec (l : List Int) : Out P :=
  match l with
  | [] => Out.int (-1)
  | h :: t => if t.all (fun x => digitsRef x.natAbs = digitsRef h.natAbs) then Out.int (digitsRef h.natAbs) else Out.int (-1)

def isQuery : Op P → Bool
  | Op.hasPair .. | Op.hasTs .. | Op.getPair .. | Op.sortedList | Op.tsLength | Op.keyPairs | Op.interp .. => true
  | _ => false

/-- queries whose answer must not depend on insertion order (key_pairs lists pairs in insertion order) -/
def isOrderFreeQuery : Op P → Bool
  | Op.keyPairs => false
  | op => isQuery op

theorem dict_has_eq {κ ν : Type} [DecidableEq κ] (k : κ) (l : List (κ × ν)) :
    Dict.has k l = (Dict.get? k l).isSome := rfl

theorem refresh_data (s : State P) : (refresh s).data = s.data := by
  fun_cases refresh s <;> rfl

theorem refresh_cache (s : State P) (h : Inv s) : (refresh s).cache = isort (Dict.keys s.data) := by
  fun_cases refresh s with
  | case1 => rfl
  | case2 hne => exact h.2.2.resolve_left fun h3 => hne (h3 ▸ rfl)

theorem abs_refresh (s : State P) : abs (refresh s) = abs s := by
  fun_cases refresh s <;> rfl

theorem entry_refresh (s : State P) : entry (refresh s) = entry s := by
  fun_cases refresh s <;> rfl

theorem inv_refresh (s : State P) (h : Inv s) : Inv (refresh s) := by
  refine ⟨?_, ?_, Or.inr ?_⟩ <;> rw [refresh_data]
  · exact h.1
  · exact h.2.1
  · exact refresh_cache s h

theorem abs_set (s : State P) (ts : Int) (i : Inner P) (c : List Int) :
    abs ⟨Dict.set ts i s.data, c⟩ =
      ⟨fun t => decide (t = ts) || (abs s).present t, fun t d => if t = ts then Dict.get? d i else (abs s).entry t d⟩ := by
  apply Abs.ext'
  · intro t
    by_cases e : t = ts <;> simp [abs, Dict.has, Dict.get?_set, e]
  · intro t d
    by_cases e : t = ts <;> simp [abs, entry, Dict.get?_set, e]

theorem abs_erase (s : State P) (ts : Int) (c : List Int) (h : (Dict.keys s.data).Nodup) :
    abs ⟨Dict.erase ts s.data, c⟩ = (abs s).delTs ts := by
  apply Abs.ext'
  · intro t
    simp only [abs, Abs.delTs, Dict.has, Dict.get?_erase _ _ _ h]
    split <;> simp [*]
  · intro t d
    simp only [abs, entry, Abs.delTs, Dict.get?_erase _ _ _ h]
    split <;> simp [*]

/-- overwriting a timestamp that is already a key leaves the key list, hence a warm cache, as it is -/
theorem inv_set (s : State P) (ts : Int) (i : Inner P) (c : List Int) (h : Inv s) (hi : (Dict.keys i).Nodup)
    (hc : c = [] ∨ c = s.cache ∧ ts ∈ Dict.keys s.data) : Inv ⟨Dict.set ts i s.data, c⟩ := by
  refine ⟨Dict.nodup_set _ _ _ h.1, fun t inner hg => ?_, ?_⟩
  · rw [Dict.get?_set] at hg
    split at hg
    · exact Option.some.inj hg ▸ hi
    · exact h.2.1 _ _ hg
  · rcases hc with hc | ⟨hc, hm⟩
    · exact Or.inl hc
    · rw [hc, Dict.keys_set_of_mem _ hm]
      exact h.2.2

theorem inv_erase (s : State P) (ts : Int) (h : Inv s) : Inv ⟨Dict.erase ts s.data, []⟩ := by
  refine ⟨Dict.nodup_erase _ _ h.1, fun t inner hg => ?_, Or.inl rfl⟩
  rw [Dict.get?_erase _ _ _ h.1] at hg
  split at hg
  · cases hg
  · exact h.2.1 _ _ hg

theorem query_state (s : State P) (op : Op P) (hq : isQuery op = true) :
    (step s op).1 = s ∨ (step s op).1 = refresh s := by
  cases op with
  | setPair | setTs | delPair | delTs => cases hq
  | hasPair | hasTs | keyPairs => exact Or.inl rfl
  | sortedList | tsLength => exact Or.inr rfl
  | getPair ts dev =>
    simp only [step]
    cases entry s ts dev <;> exact Or.inl rfl
  | interp ts dev maxI =>
    show (interpolate s ts dev maxI).1 = s ∨ (interpolate s ts dev maxI).1 = refresh s
    fun_cases interpolate s ts dev maxI
    · exact Or.inl rfl
    · exact Or.inr rfl

theorem setPair_refines' (s : State P) (ts : Int) (dev : String) (p : P) :
    abs (step s (Op.setPair ts dev p)).1 = (abs s).setPair ts dev p ∧ (step s (Op.setPair ts dev p)).2 = Out.ok := by
  refine ⟨(abs_set s ts _ []).trans ?_, rfl⟩
  unfold Abs.setPair
  congr 1
  funext t d
  by_cases e : t = ts
  · subst e
    rw [if_pos rfl, Dict.get?_set]
    by_cases e2 : d = dev
    · rw [if_pos e2, if_pos ⟨rfl, e2⟩]
    · rw [if_neg e2, if_neg (fun h => e2 h.2)]
      simp only [abs, entry]
      cases Dict.get? t s.data <;> rfl
  · rw [if_neg e, if_neg (fun h => e h.1)]

theorem setTs_refines' (s : State P) (ts : Int) (inner : List (String × P)) :
    abs (step s (Op.setTs ts inner)).1 = (abs s).setTs ts inner ∧ (step s (Op.setTs ts inner)).2 = Out.ok :=
  ⟨abs_set s ts _ [], rfl⟩

theorem delPair_unique (a a1 a2 : Abs P) (ts : Int) (dev : String)
    (h1 : Abs.DelPair a a1 ts dev) (h2 : Abs.DelPair a a2 ts dev) : a1 = a2 := by
  apply Abs.ext'
  · intro t
    by_cases e : t = ts
    · subst e
      rw [Bool.eq_iff_iff, h1.2.2, h2.2.2]
    · rw [h1.2.1 t e, h2.2.1 t e]
  · intro t d
    rw [h1.1, h2.1]

theorem mem_keyPairsOf (d : Data P) (t : Int) (dv : String) :
    (t, dv) ∈ keyPairsOf d ↔ ∃ inner, (t, inner) ∈ d ∧ dv ∈ Dict.keys inner := by
  simp only [keyPairsOf, List.mem_flatMap, List.mem_map, Prod.mk.injEq, Prod.exists]
  constructor
  · rintro ⟨t', inner, hm, dv', hk, rfl, rfl⟩
    exact ⟨inner, hm, hk⟩
  · rintro ⟨inner, hm, hk⟩
    exact ⟨t, inner, hm, dv, hk, rfl, rfl⟩

theorem keyPairsOf_mem (d : Data P) (hn : (Dict.keys d).Nodup) (t : Int) (dv : String) :
    (t, dv) ∈ keyPairsOf d ↔ ((Dict.get? t d).bind (Dict.get? dv)).isSome = true := by
  simp only [mem_keyPairsOf, ← Dict.get?_eq_some_iff hn, Dict.mem_keys_iff]
  cases Dict.get? t d <;> simp

theorem keyPairsOf_nodup (d : Data P) (hn : (Dict.keys d).Nodup)
    (hi : ∀ ts inner, Dict.get? ts d = some inner → (Dict.keys inner).Nodup) : (keyPairsOf d).Nodup := by
  refine List.pairwise_flatMap.mpr ⟨?_, ?_⟩
  · rintro ⟨t, inner⟩ hm
    have := hi t inner (Dict.get?_of_mem hn hm)
    exact List.pairwise_map.mpr (this.imp fun hab e => hab (Prod.mk.inj e).2)
  · refine (List.pairwise_map.mp hn).imp ?_
    intro a b hab x hx y hy e
    simp only [List.mem_map] at hx hy
    obtain ⟨_, _, rfl⟩ := hx
    obtain ⟨_, _, rfl⟩ := hy
    exact hab (Prod.mk.inj e).1

theorem sortedKeys_isort (s : State P) (h : Inv s) : SortedKeys (abs s) (isort (Dict.keys s.data)) := by
  refine ⟨pairwise_lt_isort _ h.1, ?_⟩
  intro t
  rw [mem_isort, Dict.mem_keys_iff]
  rfl

theorem sortedKeys_unique' (a : Abs P) (l₁ l₂ : List Int) (h₁ : SortedKeys a l₁) (h₂ : SortedKeys a l₂) : l₁ = l₂ := by
  apply sorted_ext _ _ h₁.1 h₂.1
  intro x
  rw [h₁.2, h₂.2]

theorem refresh_cache_eq (s : State P) (l : List Int) (h : Inv s) (hl : SortedKeys (abs s) l) :
    (refresh s).cache = l := by
  rw [refresh_cache s h]
  exact sortedKeys_unique' _ _ _ (sortedKeys_isort s h) hl

theorem takeWhile_dropWhile_eq_filter {α : Type} (p : α → Bool) (l : List α)
    (h : l.Pairwise (fun a b => p b = true → p a = true)) :
    l.takeWhile p = l.filter p ∧ l.dropWhile p = l.filter (fun x => !p x) := by
  induction l with
  | nil => exact ⟨rfl, rfl⟩
  | cons a t ih =>
    rw [List.pairwise_cons] at h
    by_cases ha : p a = true
    · simp [ha, ih h.2]
    · have hall : ∀ x ∈ t, ¬ p x = true := fun x hx hpx => ha (h.1 x hx hpx)
      rw [List.takeWhile_cons_of_neg ha, List.dropWhile_cons_of_neg ha, List.filter_cons_of_neg ha,
        List.filter_cons_of_pos (by simpa using ha), List.filter_eq_nil_iff.mpr hall,
        List.filter_eq_self.mpr fun x hx => by simpa using hall x hx]
      exact ⟨rfl, rfl⟩

theorem nearest_nil (far has : Int → Bool) : nearest far has [] = none := rfl

theorem nearest_cons (far has : Int → Bool) (x : Int) (xs : List Int) :
    nearest far has (x :: xs) = if has x then (if far x then none else some x) else nearest far has xs := by
  unfold nearest
  by_cases h : has x = true <;> simp [h]

theorem nearest_eq_none (far has : Int → Bool) (xs : List Int) (h : ∀ c ∈ xs, has c = true → far c = true) :
    nearest far has xs = none := by
  unfold nearest
  cases hc : (xs.filter has).head? with
  | none => rfl
  | some c =>
    have hm := List.mem_filter.mp (List.mem_of_head? hc)
    exact if_pos (h c hm.1 hm.2)

/-- `scan` stops at the first element that is far or carries the device.  `far` only spreads along the walk (`hm`), so
  that element is the usable neighbour exactly when it is the first one carrying the device and is not far: what
  `nearest` computes.  Stated for the way `interpCore` consumes a scan: fail, give up, or go on with the neighbour (`k`). -/
theorem scan_then (hasDev : Int → Option Bool) (has : Int → Bool) (far : Int → Prop) [DecidablePred far]
    (xs : List Int) (hd : ∀ x ∈ xs, hasDev x = some (has x)) (hm : xs.Pairwise (fun x y => far x → far y))
    (k k' : Int → Out P) (hk : ∀ x, has x = true → k x = k' x) :
    (match scan hasDev (fun x => decide (far x)) xs with
      | .err => Out.keyError
      | .ranOff => Out.none
      | .stop x => if far x then Out.none else k x) =
    match nearest (fun x => decide (far x)) has xs with
      | some x => k' x
      | none => Out.none := by
  fun_induction scan hasDev (fun x => decide (far x)) xs with
  | case1 => rfl
  | case2 x xs hf =>
    -- stopped because `x` is far: so is everything after it
    have hf := of_decide_eq_true hf
    rw [nearest_eq_none _ _ _ fun c hc _ =>
      decide_eq_true ((List.mem_cons.mp hc).elim (· ▸ hf) ((List.pairwise_cons.mp hm).1 c · hf))]
    exact if_pos hf
  | case3 x xs hf hx =>
    -- no `KeyError`: `hasDev` answers on `xs`
    rw [hd x List.mem_cons_self] at hx
    cases hx
  | case4 x xs hf hx =>
    rw [hd x List.mem_cons_self] at hx
    have hh := Option.some.inj hx
    rw [nearest_cons, hh, if_pos rfl, if_neg hf]
    exact (if_neg (by simpa using hf)).trans (hk x hh)
  | case5 x xs hf hx ih =>
    rw [hd x List.mem_cons_self] at hx
    rw [nearest_cons, Option.some.inj hx, if_neg Bool.false_ne_true]
    exact ih (fun c hc => hd c (List.mem_cons_of_mem _ hc)) (List.pairwise_cons.mp hm).2

theorem sorted_head_le (l : List Int) (first : Int) (hs : l.Pairwise (· < ·)) (hh : l.head? = some first) :
    ∀ x ∈ l, first ≤ x := by
  obtain ⟨t, rfl⟩ := List.head?_eq_some_iff.mp hh
  intro x hx
  rcases List.mem_cons.mp hx with e | e
  · exact Int.le_of_eq e.symm
  · exact Int.le_of_lt ((List.pairwise_cons.mp hs).1 x e)

theorem sorted_le_last (l : List Int) (last : Int) (hs : l.Pairwise (· < ·)) (hh : l.getLast? = some last) :
    ∀ x ∈ l, x ≤ last := by
  obtain ⟨t, rfl⟩ := List.getLast?_eq_some_iff.mp hh
  intro x hx
  rcases List.mem_append.mp hx with e | e
  · exact Int.le_of_lt ((List.pairwise_append.mp hs).2.2 x e last (List.mem_singleton.mpr rfl))
  · exact Int.le_of_eq (List.mem_singleton.mp e)

theorem interpSpec_eq_nearest (ent : Int → String → Option P) (pres : Int → Bool) (l : List Int)
    (ts : Int) (dev : String) (maxI : Int) (hn : ent ts dev = none) :
    interpSpec ⟨pres, ent⟩ l ts dev maxI =
      match nearest (fun x => decide (ts - x > maxI)) (fun t => (ent t dev).isSome)
              (l.filter (fun x => decide (x < ts))).reverse with
      | some lo =>
        (match nearest (fun x => decide (x - ts > maxI)) (fun t => (ent t dev).isSome)
                (l.filter (fun x => !decide (x < ts))) with
         | some up =>
           (match ent lo dev, ent up dev with
            | some lp, some upp => Out.interp lo lp up upp ts
            | _, _ => Out.none)
         | none => Out.none)
      | none => Out.none := by
  have e1 : (l.filter (fun t => decide (t < ts) && (ent t dev).isSome)).getLast? =
      (((l.filter (fun x => decide (x < ts))).reverse).filter (fun t => (ent t dev).isSome)).head? := by
    rw [List.filter_reverse, List.head?_reverse, List.filter_filter]
    simp only [Bool.and_comm]
  have e2 : (l.filter (fun t => decide (t > ts) && (ent t dev).isSome)).head? =
      ((l.filter (fun x => !decide (x < ts))).filter (fun t => (ent t dev).isSome)).head? := by
    rw [List.filter_filter]
    congr 1
    apply List.filter_congr
    intro x _
    by_cases hx : x = ts
    · simp [hx, hn]
    · have : x > ts ↔ ¬ x < ts := by omega
      simp only [this, decide_not, Bool.and_comm]
  unfold interpSpec nearest
  dsimp only
  rw [hn, e1, e2]
  dsimp only
  generalize (List.filter (fun t => (ent t dev).isSome) (List.filter (fun x => decide (x < ts)) l).reverse).head? = A
  generalize (List.filter (fun t => (ent t dev).isSome) (List.filter (fun x => !decide (x < ts)) l)).head? = B
  rcases A with _ | lo
  · rfl
  rcases B with _ | up <;> dsimp only
  · generalize (if decide (ts - lo > maxI) = true then none else some lo) = o
    cases o <;> rfl
  -- the wording asks for both distances at once, the code for one after the other
  by_cases h1 : ts - lo > maxI
  · rw [if_pos (decide_eq_true h1)]
    exact if_neg fun h => Int.not_le.mpr h1 h.1
  rw [if_neg (mt of_decide_eq_true h1)]
  by_cases h2 : up - ts > maxI
  · rw [if_pos (decide_eq_true h2)]
    exact if_neg fun h => Int.not_le.mpr h2 h.2
  · rw [if_neg (mt of_decide_eq_true h2)]
    exact if_pos ⟨Int.not_lt.mp h1, Int.not_lt.mp h2⟩

theorem interpCore_eq (ent : Int → String → Option P) (pres : Int → Bool) (l : List Int)
    (ts : Int) (dev : String) (maxI : Int)
    (hs : l.Pairwise (· < ·)) (hp : ∀ x ∈ l, pres x = true) (hn : ent ts dev = none) :
    interpCore ent pres l ts dev maxI = interpSpec ⟨pres, ent⟩ l ts dev maxI := by
  rw [interpSpec_eq_nearest ent pres l ts dev maxI hn]
  obtain ⟨tw, dw⟩ := takeWhile_dropWhile_eq_filter (fun x => decide (x < ts)) l
    (hs.imp fun hab h => decide_eq_true (Int.lt_trans hab (of_decide_eq_true h)))
  unfold interpCore
  dsimp only
  rw [tw, dw]
  split
  · next first last hf hl =>
    have hfirst := sorted_head_le l first hs hf
    have hlast := sorted_le_last l last hs hl
    have hB : ∀ x ∈ (l.filter fun x => decide (x < ts)).reverse, x ∈ l ∧ x < ts := fun x hx =>
      (List.mem_filter.mp (List.mem_reverse.mp hx)).imp_right of_decide_eq_true
    have hA : ∀ x ∈ l.filter fun x => !decide (x < ts), x ∈ l ∧ ts ≤ x := fun x hx =>
      (List.mem_filter.mp hx).imp_right fun h => Int.not_lt.mp (of_decide_eq_false ((Bool.not_eq_true' _).mp h))
    by_cases hg : (decide (l.length < 2) || decide (ts ≤ first) || decide (ts ≥ last)) = true
    · rw [if_pos hg]
      simp only [Bool.or_eq_true, decide_eq_true_eq] at hg
      -- `ts` is outside the list's span: no candidate on one side
      by_cases hg' : ts ≤ first
      · rw [nearest_eq_none _ _ (l.filter _).reverse fun c hc _ => ?_]
        exact absurd (Int.lt_of_lt_of_le (hB c hc).2 hg') (Int.not_lt.mpr (hfirst c (hB c hc).1))
      · rw [nearest_eq_none _ _ (l.filter fun x => !decide (x < ts)) fun c hc hh => ?_]
        · cases nearest _ _ (l.filter _).reverse <;> rfl
        -- `last ≤ ts` (a list of one element has `last = first < ts`), so a candidate `c`, lying between `ts` and `last`,
        -- is `ts` itself, which does not carry the device
        have hone : l.length < 2 → first = last := fun hlen => by
          rw [List.getLast?_eq_getElem?, Nat.sub_eq_zero_of_le (Nat.le_of_lt_succ hlen), ← List.head?_eq_getElem?,
            hf] at hl
          exact Option.some.inj hl
        have hle : last ≤ ts := hg.elim
          (·.elim (fun hlen => hone hlen ▸ Int.le_of_lt (Int.not_le.mp hg')) fun h => absurd h hg') id
        rw [Int.le_antisymm (Int.le_trans (hlast c (hA c hc).1) hle) (hA c hc).2, hn] at hh
        cases hh
    · rw [if_neg hg]
      simp only [Bool.or_eq_true, decide_eq_true_eq, not_or, Int.not_le] at hg
      have hd : ∀ x ∈ l, (if pres x = true then some (ent x dev).isSome else none) = some (ent x dev).isSome :=
        fun x hx => if_pos (hp x hx)
      split
      · exact scan_then (hd := fun x hx => hd x (hB x hx).1)
          (hm := List.pairwise_reverse.mpr
            ((hs.filter _).imp fun hab h => Int.lt_trans h (Int.sub_lt_sub_left hab ts)))
          (hk := fun prev hprev =>
            scan_then (hd := fun x hx => hd x (hA x hx).1)
              (hm := (hs.filter _).imp fun hab h => Int.lt_trans h (Int.sub_lt_sub_right hab ts))
              (hk := fun next hnext => by
                obtain ⟨lp, hlp⟩ := Option.isSome_iff_exists.mp hprev
                obtain ⟨up, hup⟩ := Option.isSome_iff_exists.mp hnext
                simp only [hlp, hup]))
      · next hno =>
        have hb : first ∈ (l.filter fun x => decide (x < ts)).reverse :=
          List.mem_reverse.mpr (List.mem_filter.mpr ⟨List.mem_of_head? hf, decide_eq_true hg.1.2⟩)
        have ha : last ∈ l.filter fun x => !decide (x < ts) :=
          List.mem_filter.mpr ⟨List.mem_of_getLast? hl, by simpa using Int.le_of_lt hg.2⟩
        obtain ⟨b, bs, hb⟩ := List.exists_cons_of_ne_nil (List.ne_nil_of_mem hb)
        obtain ⟨a, as, ha⟩ := List.exists_cons_of_ne_nil (List.ne_nil_of_mem ha)
        exact (hno _ _ _ _ hb ha).elim
  · next hne =>
    cases l with
    | nil => rfl
    | cons a t => exact (hne a _ rfl (List.getLast?_eq_some_getLast (List.cons_ne_nil a t))).elim

theorem interpSpec_ne (a : Abs P) (l : List Int) (ts : Int) (dev : String) (maxI : Int) :
    interpSpec a l ts dev maxI ≠ Out.keyError ∧ interpSpec a l ts dev maxI ≠ Out.indexError := by
  fun_cases interpSpec a l ts dev maxI <;> exact ⟨nofun, nofun⟩

/-- `len(str(n))`: what core proves of the length of the decimal numeral holds of `digitsRef` -/
theorem digitsRef_eq_length (n : Nat) : digitsRef n = (Nat.toDigits 10 n).length := by
  fun_induction digitsRef n with
  | case1 n h => rw [Nat.toDigits_eq_if (by decide), if_pos h]; rfl
  | case2 n h ih => rw [Nat.toDigits_eq_if (by decide), if_neg h, List.length_append, ← ih]; exact Nat.add_comm 1 _

theorem digitsRef_pos (n : Nat) : 1 ≤ digitsRef n := digitsRef_eq_length n ▸ Nat.length_toDigits_pos

theorem digitsRef_le_iff {n k : Nat} (h : 0 < k) : digitsRef n ≤ k ↔ n < 10 ^ k :=
  digitsRef_eq_length n ▸ Nat.length_toDigits_le_iff (by decide) h

theorem digitsRef_mono (a b : Nat) (h : a ≤ b) : digitsRef a ≤ digitsRef b :=
  (digitsRef_le_iff (digitsRef_pos b)).mpr
    (Nat.lt_of_le_of_lt h ((digitsRef_le_iff (digitsRef_pos b)).mp (Nat.le_refl _)))

theorem numDigits_loop (fuel : Nat) (m : Nat) (c : Int) (h : m < fuel) :
    Gen.NumDigits.loop fuel (m : Int) c = c + (digitsRef m : Int) - 1 := by
  induction fuel generalizing m c with
  | zero => cases h
  | succ f ih =>
    have hdiv : Int.fdiv (m : Int) 10 = ((m / 10 : Nat) : Int) := by
      rw [Int.fdiv_eq_ediv_of_nonneg _ (by decide)]; rfl
    rw [Gen.NumDigits.loop, hdiv, digitsRef]
    by_cases hlt : m < 10
    · rw [Nat.div_eq_of_lt hlt, if_pos hlt]
      exact (Int.add_sub_cancel c 1).symm
    · have hge : 10 ≤ m := Nat.le_of_not_lt hlt
      have h0 : ((m / 10 : Nat) : Int) ≠ 0 := Int.natCast_ne_zero.mpr (Nat.ne_of_gt (Nat.div_pos hge (by decide)))
      have hf : m / 10 < f :=
        Nat.lt_of_lt_of_le (Nat.div_lt_self (Nat.lt_of_lt_of_le (by decide) hge) (by decide)) (Nat.le_of_lt_succ h)
      rw [if_neg hlt, if_pos (decide_eq_true h0), ih _ _ hf, Int.natCast_add, Int.add_assoc]
      rfl

theorem numDigits_spec' (n : Int) : Gen.NumDigits.numDigits n = (digitsRef n.natAbs : Int) := by
  unfold Gen.NumDigits.numDigits
  dsimp only
  rw [numDigits_loop _ _ _ (Nat.lt_succ_self _), Int.add_comm]
  exact Int.add_sub_cancel _ 1

theorem pyIndex_some_mem (l : List Int) (i : Int) (h : -(l.length : Int) ≤ i ∧ i < l.length) :
    ∃ x, pyIndex l i = some x ∧ x ∈ l := by
  have hget : ∀ n, n < l.length → ∃ x, l[n]? = some x ∧ x ∈ l := fun n hn =>
    ⟨l[n], List.getElem?_eq_getElem hn, List.getElem_mem hn⟩
  fun_cases pyIndex l i with
  | case1 h0 => exact hget _ ((Int.toNat_lt h0).mpr h.2)
  | case2 h0 h1 => exact hget _ (by omega)
  | case3 h0 h1 => omega

theorem pyIndex_neg_one (l : List Int) (h : l ≠ []) : pyIndex l (-1) = l.getLast? := by
  have hlen : 0 < l.length := List.length_pos_iff.mpr h
  unfold pyIndex
  rw [if_neg (by omega)]
  have e : (-(-1 : Int)).toNat = 1 := by decide
  rw [e, if_pos (by omega), List.getLast?_eq_getElem?]

theorem pyIndex_ofNat_last (l : List Int) : pyIndex l (Int.ofNat (l.length - 1)) = l.getLast? := by
  unfold pyIndex
  rw [if_pos (by simp), List.getLast?_eq_getElem?]
  rfl

theorem lengthIndexes_mem (l : List Int) :
    ∀ i ∈ lengthIndexes l.length, ∃ x, pyIndex l i = some x ∧ x ∈ l := by
  fun_cases lengthIndexes l.length with
  | case1 h10 =>
    intro i hi
    have : i.natAbs ≤ 5 := by
      revert i
      decide
    exact pyIndex_some_mem l i (by omega)
  | case2 h10 =>
    intro i hi
    obtain ⟨k, hk, rfl⟩ := List.mem_map.mp hi
    have := List.mem_range.mp (List.mem_of_mem_drop hk)
    exact pyIndex_some_mem l _ ⟨Int.le_trans (by omega) (Int.natCast_nonneg k), Int.ofNat_lt.mpr this⟩

theorem lengthIndexes_last (l : List Int) (hlen : 2 ≤ l.length) :
    ∃ i ∈ lengthIndexes l.length, pyIndex l i = l.getLast? := by
  fun_cases lengthIndexes l.length with
  | case1 => exact ⟨-1, by decide, pyIndex_neg_one l (by rintro rfl; cases hlen)⟩
  | case2 =>
    refine ⟨Int.ofNat (l.length - 1), List.mem_map_of_mem ?_, pyIndex_ofNat_last l⟩
    rw [List.range_eq_range', List.drop_range', List.mem_range'_1]
    omega

theorem go_eq (l : List Int) (base : Int) (is : List Int) (hv : ∀ i ∈ is, ∃ x, pyIndex l i = some x ∧ x ∈ l) :
    tsLengthOf.go (P := P) l base is =
      if is.all (fun i => (pyIndex l i).all (fun x => decide (Gen.NumDigits.numDigits x = base))) then Out.int base
      else Out.int (-1) := by
  induction is with
  | nil => rfl
  | cons i is ih =>
    obtain ⟨x, hx, -⟩ := hv i List.mem_cons_self
    rw [tsLengthOf.go, List.all_cons, hx, ih fun j hj => hv j (List.mem_cons_of_mem _ hj)]
    by_cases hd : Gen.NumDigits.numDigits x = base <;> simp [hd]

theorem tsLengthOf_eq (l : List Int) (hs : l.Pairwise (· < ·)) (hpos : ∀ t ∈ l, 0 ≤ t) :
    tsLengthOf (P := P) l = tsLengthSpec l := by
  cases l with
  | nil => rfl
  | cons h t =>
    have hunf : tsLengthOf (P := P) (h :: t) =
        tsLengthOf.go (h :: t) (Gen.NumDigits.numDigits h) (lengthIndexes (h :: t).length) := rfl
    rw [hunf, go_eq _ _ _ (lengthIndexes_mem (h :: t)), tsLengthSpec]
    simp only [numDigits_spec', Int.natCast_inj, List.all_eq_true, decide_eq_true_eq]
    have hle : ∀ x ∈ h :: t, ∀ y ∈ h :: t, x ≤ y → digitsRef x.natAbs ≤ digitsRef y.natAbs := fun x hx y hy hxy =>
      digitsRef_mono _ _ (Int.ofNat_le.mp
        (by rw [Int.natAbs_of_nonneg (hpos x hx), Int.natAbs_of_nonneg (hpos y hy)]; exact hxy))
    -- the sampled elements agree with the head iff all elements do
    refine ite_cond_congr (propext ⟨fun hsamp x hx => ?_, fun hall i hi => ?_⟩)
    · -- the last element is sampled, and every digit count lies between the head's and the last's
      obtain ⟨last, hl⟩ : ∃ last, (h :: t).getLast? = some last :=
        ⟨_, List.getLast?_eq_some_getLast (List.cons_ne_nil h t)⟩
      obtain ⟨i, hi, hpi⟩ := lengthIndexes_last (h :: t) (by cases t with | nil => cases hx | cons _ _ => simp)
      have hlast := hsamp i hi
      rw [hpi, hl, Option.all_some, decide_eq_true_eq] at hlast
      have hx' := List.mem_cons_of_mem h hx
      have h1 := hle h List.mem_cons_self x hx' (Int.le_of_lt ((List.pairwise_cons.mp hs).1 x hx))
      have h2 := hle x hx' last (List.mem_of_getLast? hl) (sorted_le_last _ _ hs hl x hx')
      exact Nat.le_antisymm (hlast ▸ h2) h1
    · obtain ⟨x, hx, hm⟩ := lengthIndexes_mem (h :: t) i hi
      rw [hx, Option.all_some, decide_eq_true_eq]
      rcases List.mem_cons.mp hm with e | e
      · rw [e]
      · exact hall x e

theorem run_inv (I : State P → Prop) (hI : ∀ s op, I s → I (step s op).1) (s : State P) (ops : List (Op P))
    (h : I s) : I (run s ops).1 := by
  induction ops generalizing s with
  | nil => exact h
  | cons op ops ih => exact ih _ (hI s op h)

theorem run_outputs_eq (R : State P → State P → Prop) {ok : Op P → Prop}
    (hR : ∀ s₁ s₂ op, R s₁ s₂ → R (step s₁ op).1 (step s₂ op).1 ∧ (ok op → (step s₁ op).2 = (step s₂ op).2))
    (s₁ s₂ : State P) (ops : List (Op P)) (h : R s₁ s₂) (hc : ∀ op ∈ ops, ok op) :
    (run s₁ ops).2 = (run s₂ ops).2 := by
  induction ops generalizing s₁ s₂ with
  | nil => rfl
  | cons op ops ih =>
    obtain ⟨hr, ho⟩ := hR s₁ s₂ op h
    simp only [run]
    rw [ho (hc op List.mem_cons_self), ih _ _ hr fun o hm => hc o (List.mem_cons_of_mem _ hm)]

end Kapture.C07
