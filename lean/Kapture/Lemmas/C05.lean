/-
  Lemmas/C05.lean — the generated rotation formulas over an arbitrary field; what needs no division comes first, over a
  commutative ring.
  Three lemmas read the generated matrix: `rot_sandwich` (it acts on vectors as conjugation by `q`, so products and norms
  are those of quaternions), and entry by entry `rot_conj` (transpose) and `rot_smul` (scaling).
-/
import Kapture.Model.C05
import Mathlib.Tactic.Ring

namespace Kapture.C05
open Kapture.Gen.RotMat

section ring
variable {R : Type} [CommRing R]

theorem qnorm_mul (p q : Quat R) : qnorm (Quat.mul p q) = qnorm p * qnorm q := by
  simp only [qnorm, Quat.mul]; ring

theorem qnorm_smul (c : R) (q : Quat R) : qnorm (Quat.smul c q) = c * c * qnorm q := by
  simp only [qnorm, Quat.smul]; ring

def conj (q : Quat R) : Quat R := ⟨q.w, -q.x, -q.y, -q.z⟩

theorem qnorm_conj (q : Quat R) : qnorm (conj q) = qnorm q := by
  simp only [qnorm, conj, neg_mul_neg]

theorem quat_mul_assoc (a b c : Quat R) : Quat.mul (Quat.mul a b) c = Quat.mul a (Quat.mul b c) := by
  simp only [Quat.mul, Quat.mk.injEq]
  refine ⟨?_, ?_, ?_, ?_⟩ <;> ring

theorem mulVec_add (a : M3 R) (u v : V3 R) : M3.mulVec a (V3.add u v) = V3.add (M3.mulVec a u) (M3.mulVec a v) := by
  simp only [M3.mulVec, V3.add, V3.mk.injEq]
  refine ⟨?_, ?_, ?_⟩ <;> ring

theorem mulVec_mul (a b : M3 R) (v : V3 R) : M3.mulVec (M3.mul a b) v = M3.mulVec a (M3.mulVec b v) := by
  simp only [M3.mulVec, M3.mul, V3.mk.injEq]
  refine ⟨?_, ?_, ?_⟩ <;> ring

theorem mulVec_one (v : V3 R) : M3.mulVec (M3.one : M3 R) v = v := by
  simp only [M3.mulVec, M3.one, one_mul, zero_mul, add_zero, zero_add]

theorem sub_add_mulVec (a : M3 R) (t x y : V3 R) :
    V3.sub (V3.add (M3.mulVec a x) t) (V3.add (M3.mulVec a y) t) = M3.mulVec a (V3.sub x y) := by
  simp only [M3.mulVec, V3.add, V3.sub, V3.mk.injEq]
  refine ⟨?_, ?_, ?_⟩ <;> ring

theorem add_assoc3 (u v w : V3 R) : V3.add (V3.add u v) w = V3.add u (V3.add v w) := by
  simp only [V3.add, V3.mk.injEq]
  refine ⟨?_, ?_, ?_⟩ <;> ring

theorem mulNegOne_mulVec (a : M3 R) (v : V3 R) : V3.mulNegOne (M3.mulVec a (V3.mulNegOne v)) = M3.mulVec a v := by
  simp only [V3.mulNegOne, M3.mulVec, V3.mk.injEq]
  refine ⟨?_, ?_, ?_⟩ <;> ring

theorem ext_mulVec {a b : M3 R} (h : ∀ v, M3.mulVec a v = M3.mulVec b v) : a = b := by
  have h1 := h ⟨1, 0, 0⟩
  have h2 := h ⟨0, 1, 0⟩
  have h3 := h ⟨0, 0, 1⟩
  cases a; cases b
  simp only [M3.mulVec, mul_one, mul_zero, add_zero, zero_add, V3.mk.injEq] at h1 h2 h3
  simp only [h1, h2, h3]

def pureQuat (v : V3 R) : Quat R := ⟨0, v.x, v.y, v.z⟩

theorem pureQuat_inj {u v : V3 R} (h : pureQuat u = pureQuat v) : u = v :=
  congrArg (fun q : Quat R => V3.mk q.x q.y q.z) h

theorem qnorm_pureQuat (v : V3 R) : qnorm (pureQuat v) = V3.norm2 v := by
  simp only [qnorm, pureQuat, V3.norm2, V3.dot, mul_zero, zero_add]

end ring

variable {K : Type} [Field K]

theorem qnorm_eq_norm2 (q : Quat K) : qnorm q = Quat.norm2 q := rfl

theorem qnorm_mul_ne {p q : Quat K} (hp : qnorm p ≠ 0) (hq : qnorm q ≠ 0) : qnorm (Quat.mul p q) ≠ 0 := by
  rw [qnorm_mul]; exact mul_ne_zero hp hq

theorem inv_eq_smul_conj (q : Quat K) : Quat.inv q = Quat.smul (qnorm q)⁻¹ (conj q) := by
  simp only [Quat.inv, Quat.smul, conj, qnorm_eq_norm2, div_eq_inv_mul]

theorem qnorm_inv (q : Quat K) (h : qnorm q ≠ 0) : qnorm (Quat.inv q) = (qnorm q)⁻¹ := by
  rw [inv_eq_smul_conj, qnorm_smul, qnorm_conj, inv_mul_cancel_right₀ h]

theorem qnorm_inv_ne (q : Quat K) (h : qnorm q ≠ 0) : qnorm (Quat.inv q) ≠ 0 :=
  qnorm_inv q h ▸ inv_ne_zero h

/-- rewriting with this leaves `ring` nothing to cancel: in what `Quat.inv q` and `rotNorm q _` divide by, `Quat.norm2 q`
  stays an atom -/
theorem one_eq_div_norm2 (q : Quat K) (h : qnorm q ≠ 0) :
    (1 : K) = (q.w * q.w + q.x * q.x + q.y * q.y + q.z * q.z) / Quat.norm2 q :=
  (div_self h).symm

theorem quat_mul_inv (q : Quat K) (h : qnorm q ≠ 0) : Quat.mul q (Quat.inv q) = Quat.one := by
  simp only [Quat.mul, Quat.inv, Quat.one, one_eq_div_norm2 q h, Quat.mk.injEq]
  refine ⟨?_, ?_, ?_, ?_⟩ <;> ring

theorem quat_inv_inv (q : Quat K) (h : qnorm q ≠ 0) : Quat.inv (Quat.inv q) = q := by
  have hi : Quat.norm2 (Quat.inv q) = (Quat.norm2 q)⁻¹ := qnorm_inv q h
  have h' : Quat.norm2 q ≠ 0 := h
  rw [Quat.inv, hi]
  simp only [Quat.inv, div_inv_eq_mul, neg_div, neg_neg, div_mul_cancel₀ _ h']

theorem quat_inv_mul (q : Quat K) (h : qnorm q ≠ 0) : Quat.mul (Quat.inv q) q = Quat.one := by
  have := quat_mul_inv _ (qnorm_inv_ne q h)
  rwa [quat_inv_inv q h] at this

theorem quat_inv_mul_rev (p q : Quat K) : Quat.inv (Quat.mul p q) = Quat.mul (Quat.inv q) (Quat.inv p) := by
  have e : Quat.norm2 (Quat.mul p q) = Quat.norm2 p * Quat.norm2 q := by
    simp only [← qnorm_eq_norm2, qnorm_mul]
  simp only [Quat.inv, e]
  simp only [Quat.mul, Quat.mk.injEq]
  refine ⟨?_, ?_, ?_, ?_⟩ <;> ring

theorem rotUnit_eq (q : Quat K) : rotUnit q = rotNorm q 1 := by
  simp only [rotUnit, rotNorm, div_one]

variable [DecidableEq K]

theorem rot_eq_norm (q : Quat K) : rot q = rotNorm q (qnorm q) := by
  unfold rot
  split
  · next h1 => rw [h1, rotUnit_eq]
  · rfl

theorem rot_sandwich (q : Quat K) (v : V3 K) (h : qnorm q ≠ 0) :
    pureQuat (M3.mulVec (rot q) v) = Quat.mul (Quat.mul q (pureQuat v)) (Quat.inv q) := by
  rw [rot_eq_norm, qnorm_eq_norm2]
  simp only [rotNorm, one_eq_div_norm2 q h, pureQuat, M3.mulVec, Quat.mul, Quat.inv, Quat.mk.injEq]
  refine ⟨?_, ?_, ?_, ?_⟩ <;> ring

/-- every entry of `rotNorm q n` is `δ - a / n` with `a` quadratic in `q`, so `c * c` cancels -/
theorem rot_smul (c : K) (q : Quat K) (hc : c ≠ 0) : rot (Quat.smul c q) = rot q := by
  rw [rot_eq_norm, rot_eq_norm q, qnorm_smul]
  -- on the right `a / n` becomes `c * c * a / (c * c * n)`: the denominator of the left, and `ring` has nothing to cancel
  simp only [rotNorm, Quat.smul, ← mul_div_mul_left _ (qnorm q) (mul_self_ne_zero.2 hc), M3.mk.injEq]
  refine ⟨?_, ?_, ?_, ?_, ?_, ?_, ?_, ?_, ?_⟩ <;> ring

theorem rot_conj (q : Quat K) : rot (conj q) = M3.transpose (rot q) := by
  rw [rot_eq_norm, rot_eq_norm q, qnorm_conj]
  simp only [rotNorm, conj, M3.transpose, M3.mk.injEq]
  refine ⟨?_, ?_, ?_, ?_, ?_, ?_, ?_, ?_, ?_⟩ <;> ring

theorem rot_one : rot (Quat.one : Quat K) = M3.one := by
  simp [rot, qnorm, Quat.one, rotUnit, M3.one]

theorem transform_identity (x : V3 K) : transform identity x = x := by
  simp [transform, identity, rot_one, mulVec_one, V3.add, V3.zero]

end Kapture.C05
