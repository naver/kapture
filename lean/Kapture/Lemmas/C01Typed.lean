/-
  Lemmas/C01Typed.lean — the typed layer of C01: laws of the float codec.
-/
import Kapture.Lemmas.C01
import Kapture.Model.C01Typed

namespace Kapture.C01
open Kapture.Csv Kapture.Gen.RecordSchemas

variable {F : Type}

/-- what the theorems need of Python's `str` / `float` on floats: `float(repr(x)) == x` (bit for bit: `F` is whatever set of
  floats one cares to distinguish), a float's repr is a non-empty token that survives the text layer, `float('')` raises -/
structure Lawful (c : Codec F) : Prop where
  parse_render : ∀ x, c.parse (c.render x) = some x
  render_ok : ∀ x, FieldOK (c.render x) ∧ c.render x ≠ []
  parse_empty : c.parse [] = none

variable (c : Codec F)

theorem fieldOK_nil : FieldOK ([] : Str) := ⟨List.not_mem_nil, List.not_mem_nil, List.not_mem_nil, rfl⟩

theorem poseToList_fieldOK (h : Lawful c) (p : Pose F) : ∀ f ∈ poseToList c p, FieldOK f := by
  have hnil (n : Nat) : ∀ f ∈ List.replicate n ([] : Str), FieldOK f :=
    fun f hf => List.eq_of_mem_replicate hf ▸ fieldOK_nil
  have hren (xs : List F) : ∀ f ∈ xs.map c.render, FieldOK f := List.forall_mem_map.2 fun x _ => (h.render_ok x).1
  obtain ⟨_ | ⟨w, x, y, z⟩, _ | ⟨a, b, d⟩⟩ := p
  · exact List.forall_mem_append.2 ⟨hnil 4, hnil 3⟩
  · exact List.forall_mem_append.2 ⟨hnil 4, hren [a, b, d]⟩
  · exact List.forall_mem_append.2 ⟨hren [w, x, y, z], hnil 3⟩
  · exact List.forall_mem_append.2 ⟨hren [w, x, y, z], hren [a, b, d]⟩

theorem trajRot_render (h : Lawful c) (w x y z : F) :
    trajRotOfFields c (c.render w) (c.render x) (c.render y) (c.render z) = Except.ok (some (w, x, y, z)) := by
  simp [trajRotOfFields, h.parse_render, (h.render_ok _).2]

theorem trajRot_empty : trajRotOfFields c [] [] [] [] = Except.ok none := by
  simp [trajRotOfFields, givenAreFloats]

theorem trajTrans_render (h : Lawful c) (x y z : F) :
    trajTransOfFields c (c.render x) (c.render y) (c.render z) = Except.ok (some (x, y, z)) := by
  simp [trajTransOfFields, h.parse_render, (h.render_ok _).2]

theorem trajTrans_empty : trajTransOfFields c [] [] [] = Except.ok none := by
  simp [trajTransOfFields, givenAreFloats]

theorem traj_pose_roundtrip (h : Lawful c) (p : Pose F) : trajPoseOfFields c (poseToList c p) = Except.ok p := by
  obtain ⟨_ | ⟨w, x, y, z⟩, _ | ⟨a, b, d⟩⟩ := p <;>
    simp only [poseToList, List.cons_append, List.nil_append, trajPoseOfFields, trajRot_render c h, trajRot_empty,
      trajTrans_render c h, trajTrans_empty]

theorem givenAreFloats_bad (bad : Str) (hbad : c.parse bad = none) (hnb : bad ≠ []) (toks : List Str)
    (hmem : bad ∈ toks) : givenAreFloats c toks = false := by
  unfold givenAreFloats
  rw [Bool.eq_false_iff]
  intro hall
  have := List.all_eq_true.mp hall bad hmem
  simp [hbad, hnb] at this

theorem trajRot_bad (qw qx qy qz : Str) (hg : givenAreFloats c [qw, qx, qy, qz] = false) :
    trajRotOfFields c qw qx qy qz = Except.error DecodeErr.value := by
  -- the `else` branch is the error itself: what is left is that the `then` branch is one
  rw [trajRotOfFields, hg, if_neg Bool.false_ne_true, ite_eq_right_iff]
  intro _
  split
  · next ha hb hc hd => simp [givenAreFloats, ha, hb, hc, hd] at hg
  · rfl

theorem trajTrans_bad (tx ty tz : Str) (hg : givenAreFloats c [tx, ty, tz] = false) :
    trajTransOfFields c tx ty tz = Except.error DecodeErr.value := by
  rw [trajTransOfFields, hg, if_neg Bool.false_ne_true, ite_eq_right_iff]
  intro _
  split
  · next ha hb hc => simp [givenAreFloats, ha, hb, hc] at hg
  · rfl

/-- the D31 fix as a statement: a pose field of a trajectory row that is given (not empty) and is not a float is an ERROR,
  whether or not the other fields of its group are given -/
theorem traj_bad_number_is_an_error (qw qx qy qz tx ty tz bad : Str) (hm : bad ∈ [qw, qx, qy, qz, tx, ty, tz])
    (hbad : c.parse bad = none) (hnb : bad ≠ []) :
    ∃ e, trajPoseOfFields c [qw, qx, qy, qz, tx, ty, tz] = Except.error e := by
  have hsplit : bad ∈ [qw, qx, qy, qz] ∨ bad ∈ [tx, ty, tz] := List.mem_append.1 hm
  rw [trajPoseOfFields]
  rcases hsplit with h | h
  · rw [trajRot_bad c qw qx qy qz (givenAreFloats_bad c bad hbad hnb _ h)]
    exact ⟨_, rfl⟩
  · rw [trajTrans_bad c tx ty tz (givenAreFloats_bad c bad hbad hnb _ h)]
    cases trajRotOfFields c qw qx qy qz with
    | error e => exact ⟨_, rfl⟩
    | ok r => exact ⟨_, rfl⟩

theorem floatSafe_render (h : Lawful c) (x : F) : floatSafe c (c.render x) = Except.ok (some x) := by
  simp [floatSafe, h.parse_render]

theorem floatSafe_empty (h : Lawful c) : floatSafe c [] = Except.ok none := by
  simp [floatSafe, h.parse_empty, strip, lstrip, rstrip]

theorem rig_pose_roundtrip (h : Lawful c) (p : Pose F) : rigPoseOfFields c (poseToList c p) = Except.ok p := by
  obtain ⟨_ | ⟨w, x, y, z⟩, _ | ⟨a, b, d⟩⟩ := p <;>
    simp only [poseToList, List.cons_append, List.nil_append, rigPoseOfFields, floatArrayOrNone, floatSafe_render c h,
      floatSafe_empty c h]

theorem floatSafe_err (t : Str) (e : DecodeErr) (h : floatSafe c t = Except.error e) : e = DecodeErr.value := by
  unfold floatSafe at h
  split at h
  · cases h
  · split at h
    · cases h
    · cases h; rfl

theorem floatArrayOrNone_cases (toks : List Str) :
    floatArrayOrNone c toks = Except.error DecodeErr.value ∨
      (∃ vs, floatArrayOrNone c toks = Except.ok vs) ∧ ∀ t ∈ toks, ∃ v, floatSafe c t = Except.ok v := by
  fun_induction floatArrayOrNone c toks with
  | case1 => exact Or.inr ⟨⟨_, rfl⟩, List.forall_mem_nil _⟩
  | case2 t ts e h => exact Or.inl (congrArg _ (floatSafe_err c t e h))
  | case3 t ts v h e h' ih =>
    rw [h'] at ih
    exact Or.inl (ih.resolve_right fun ⟨⟨_, hr⟩, _⟩ => nomatch hr)
  | case4 t ts v h vs h' ih =>
    rw [h'] at ih
    exact Or.inr ⟨⟨_, rfl⟩, List.forall_mem_cons.2 ⟨⟨v, h⟩, (ih.resolve_left nofun).2⟩⟩

/-- the D30 fix as a statement: a pose token that is neither a float nor blank is an ERROR of the rigs reader, wherever it stands -/
theorem rig_bad_number_is_an_error (qw qx qy qz tx ty tz bad : Str) (hm : bad ∈ [qw, qx, qy, qz, tx, ty, tz])
    (hbad : c.parse bad = none) (hnb : strip bad ≠ []) :
    rigPoseOfFields c [qw, qx, qy, qz, tx, ty, tz] = Except.error DecodeErr.value := by
  have hb : ¬∃ v, floatSafe c bad = Except.ok v := by simp [floatSafe, hbad, hnb]
  rw [rigPoseOfFields]
  rcases floatArrayOrNone_cases c [qw, qx, qy, qz] with hr | ⟨⟨r, hr⟩, gr⟩
  · rw [hr]
  · rcases floatArrayOrNone_cases c [tx, ty, tz] with ht | ⟨⟨t, ht⟩, gt⟩
    · rw [hr, ht]
    · exact absurd ((List.mem_append.1 hm).elim (gr bad) (gt bad)) hb  -- both groups read, `bad` in one of them

theorem decodeVal_render (h : Lawful c) (v : Val F) : decodeVal c v.ty (renderVal c v) = some v := by
  cases v with
  | int i => simp [decodeVal, renderVal, Val.ty, readInt_showInt]
  | flt x => simp [decodeVal, renderVal, Val.ty, h.parse_render]
  | str s => simp [decodeVal, renderVal, Val.ty]

theorem fields_roundtrip (h : Lawful c) (vs : List (Val F)) :
    decodeFields c (vs.map Val.ty) (vs.map (renderVal c)) = Except.ok vs := by
  induction vs with
  | nil => rfl
  | cons v vs ih =>
    simp only [List.map_cons, decodeFields, decodeVal_render c h v, ih]
    rfl

theorem renderVal_fieldOK (h : Lawful c) (v : Val F) (hs : ∀ s, v = Val.str s → FieldOK s) : FieldOK (renderVal c v) := by
  cases v with
  | int i => exact (showInt_fieldOK i).1
  | flt x => exact (h.render_ok x).1
  | str s => exact hs s rfl

theorem decodeTrajRow_tokens (h : Lawful c) (e : Int × Str × Pose F) :
    decodeTrajRow c (showInt e.1 :: e.2.1 :: poseToList c e.2.2) = Except.ok e := by
  simp only [decodeTrajRow, readInt_showInt, traj_pose_roundtrip c h]
  rfl

theorem decodeRigRow_rigRow (h : Lawful c) (e : Str × Str × Pose F) :
    decodeRigRow c (rigRow c e) = Except.ok e := by
  simp only [rigRow, decodeRigRow, rig_pose_roundtrip c h]
  rfl

theorem decodeRecordRow_tokens (h : Lawful c) (e : Int × Str × List (Val F)) :
    decodeRecordRow c (e.2.2.map Val.ty) (showInt e.1 :: e.2.1 :: e.2.2.map (renderVal c)) = Except.ok e := by
  simp only [decodeRecordRow, readInt_showInt, fields_roundtrip c h]
  rfl

theorem decodeFields_bad : ∀ (tys : List Ty) (toks : List Str) (i : Nat) (hi : i < tys.length)
    (hlen : tys.length = toks.length), decodeVal c (tys[i]) (toks[i]'(hlen ▸ hi)) = none →
    ∃ e, decodeFields c tys toks = Except.error e := by
  intro tys toks
  fun_induction decodeFields c tys toks with
  | case1 => exact fun i hi => absurd hi (Nat.not_lt_zero i)
  | case2 ty tys s ss h => exact fun _ _ _ _ => ⟨_, rfl⟩
  | case3 ty tys s ss v h ih =>
    intro i hi hlen hbad
    cases i with
    | zero => exact absurd (h.symm.trans hbad) nofun
    | succ j =>
      obtain ⟨e, he⟩ := ih j (Nat.lt_of_succ_lt_succ hi) (Nat.succ.inj hlen) hbad
      exact ⟨e, by rw [he]; rfl⟩
  | case4 tys toks h1 h2 => exact fun _ _ _ _ => ⟨_, rfl⟩

end Kapture.C01
