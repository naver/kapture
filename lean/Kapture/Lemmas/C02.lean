/-
  Lemmas/C02.lean — the specification's view of a text file ("Text files" section of kapture_format.adoc).
-/
import Kapture.Props.C01

namespace Kapture.C02
open Kapture.Csv

/-- one physical line of a specification-conformant file -/
inductive SpecLine where
  | comment (text : Str)                    -- a line starting with '#': ignored (the version line is one of them)
  | blank (ws : Str)                        -- a line containing only blank characters: ignored
  | data (ls rs fields : List Str)          -- comma separated values, with free blanks `ls[i]`, `rs[i]` around field i

def SpecLine.text : SpecLine → Str
  | SpecLine.comment t => t
  | SpecLine.blank ws => ws
  | SpecLine.data ls rs fields => joinWith [','] (decorate ls rs fields)

/-- well-formedness of a line, as the specification words it -/
def SpecLine.WF : SpecLine → Prop
  | SpecLine.comment t => t.head? = some '#' ∧ LineOK t
  | SpecLine.blank ws => Blank ws
  | SpecLine.data ls rs fields =>
      ls.length = fields.length ∧ rs.length = fields.length ∧ (∀ l ∈ ls, Blank l) ∧ (∀ r ∈ rs, Blank r) ∧ RowOK fields

/-- the content the specification assigns to a file: the fields of its data lines, in order -/
def content : List SpecLine → List (List Str)
  | [] => []
  | SpecLine.data _ _ fields :: rest => fields :: content rest
  | _ :: rest => content rest

theorem lineOK_text (l : SpecLine) (h : l.WF) : LineOK l.text := by
  cases l with
  | comment t => exact h.2
  | blank ws => exact h.2
  | data ls rs fields => exact lineOK_decorated ls rs fields h.2.2.1 h.2.2.2.1 h.2.2.2.2.1

theorem map_parseLine_filter (lines : List SpecLine) (hw : ∀ l ∈ lines, l.WF) :
    ((lines.map SpecLine.text).filter keepLine).map parseLine = content lines := by
  induction lines with
  | nil => rfl
  | cons l rest ih =>
    obtain ⟨hl, hrest⟩ := List.forall_mem_cons.1 hw
    rw [List.map_cons]
    cases l with
    | comment t =>
      rw [SpecLine.text, filter_keepLine_of_false (keepLine_of_hash t hl.1)]
      exact ih hrest
    | blank ws =>
      rw [SpecLine.text, filter_keepLine_of_false (keepLine_blank ws hl.1)]
      exact ih hrest
    | data ls rs fields =>
      obtain ⟨h1, h2, hbl, hbr, hrow⟩ := hl
      rw [SpecLine.text, List.filter_cons_of_pos (keepLine_decorated ls rs fields h1 h2 (fun l h => (hbl l h).1) hrow),
        List.map_cons, ih hrest, parseLine_decorated ls rs fields h1 h2 hrow.ne_nil (fun l h => (hbl l h).1)
          (fun r h => (hbr r h).1) hrow.1]
      rfl

theorem rows_specLines (pad : Option (List Nat)) (rows : List (List Str)) (hr : ∀ r ∈ rows, RowOK r) :
    ∃ lines : List SpecLine, (∀ l ∈ lines, l.WF) ∧ lines.map SpecLine.text = rows.map (renderRow pad) ∧
      content lines = rows := by
  induction rows with
  | nil => exact ⟨[], List.forall_mem_nil _, rfl, rfl⟩
  | cons r rest ih =>
    obtain ⟨hr1, hrest⟩ := List.forall_mem_cons.1 hr
    obtain ⟨lines, h1, h2, h3⟩ := ih hrest
    obtain ⟨ls, rs, hl, hr', hbl, hbr, e⟩ := renderRow_decorated pad r
    exact ⟨SpecLine.data ls rs r :: lines, List.forall_mem_cons.2 ⟨⟨hl, hr', hbl, hbr, hr1⟩, h1⟩,
      by rw [List.map_cons, List.map_cons, h2, e]; rfl, congrArg (r :: ·) h3⟩

end Kapture.C02
