/-
  Lemmas/Csv.lean — the CSV text layer (Base/Csv.lean).
  Lines are treated once, in the form the specification allows (`decorate`: every field wrapped in blanks; `glue`: any line
  terminators); what the writer produces is shown to be of that form (`renderRow_decorated`, `renderFile_eq_glue`).
  Splitting and joining rest on core's `List.splitOn` / `List.intercalate` (`splitOnChar_eq_splitOn`, `joinWith_eq_intercalate`).
-/
import Kapture.Base.Csv

namespace Kapture.Csv

/-- a string made of whitespace only -/
def AllSpace (s : Str) : Prop := ∀ c ∈ s, isPySpace c = true

/-- blanks that may surround a field on a line: whitespace but no line break -/
def Blank (s : Str) : Prop := AllSpace s ∧ '\n' ∉ s ∧ '\r' ∉ s

/-- a line terminator the reader understands -/
def IsEol (e : Str) : Prop := e = ['\n'] ∨ e = ['\r', '\n'] ∨ e = ['\r']

/-- a physical line: no line break inside -/
def LineOK (l : Str) : Prop := '\n' ∉ l ∧ '\r' ∉ l

/-- lines glued with arbitrary terminators (the last line may lack one) -/
def glue : List Str → List Str → Str
  | [], _ => []
  | [l], [] => l
  | l :: ls, e :: es => l ++ e ++ glue ls es
  | l :: ls, [] => l ++ ['\n'] ++ glue ls []

/-- a field wrapped in blanks, as the specification allows ("spaces around comma are ignored") -/
def decorate : List Str → List Str → List Str → List Str
  | l :: ls, r :: rs, f :: fs => (l ++ f ++ r) :: decorate ls rs fs
  | _, _, _ => []

/-! ### strip -/

theorem length_lstrip_le (s : Str) : (lstrip s).length ≤ s.length := (List.dropWhile_suffix _).length_le

theorem length_rstrip_le (s : Str) : (rstrip s).length ≤ s.length := by
  simpa [rstrip] using (List.dropWhile_suffix isPySpace (l := s.reverse)).length_le

/-- `strip f = f` says that neither end of `f` is whitespace: `rstrip` cannot restore what `lstrip` removed -/
theorem lstrip_of_strip_eq (f : Str) (h : strip f = f) : lstrip f = f := by
  refine (List.dropWhile_suffix _).eq_of_length_le ?_
  have := length_rstrip_le (lstrip f)
  rwa [show rstrip (lstrip f) = f from h] at this

theorem rstrip_of_strip_eq (f : Str) (h : strip f = f) : rstrip f = f := by
  have h' : rstrip (lstrip f) = f := h
  rwa [lstrip_of_strip_eq f h] at h'

theorem head_not_space {x : Char} {xs : Str} (h : strip (x :: xs) = x :: xs) : isPySpace x = false := by
  have := List.head?_dropWhile_not isPySpace (x :: xs)
  rwa [show (x :: xs).dropWhile isPySpace = x :: xs from lstrip_of_strip_eq _ h] at this

theorem rstrip_nil : rstrip [] = [] := rfl

theorem lstrip_append_all (l s : Str) (h : AllSpace l) : lstrip (l ++ s) = lstrip s :=
  List.dropWhile_append_of_pos h

theorem rstrip_append_all (s r : Str) (h : AllSpace r) : rstrip (s ++ r) = rstrip s := by
  unfold rstrip
  rw [List.reverse_append, List.dropWhile_append_of_pos fun c hc => h c (List.mem_reverse.1 hc)]

theorem lstrip_all (l : Str) (h : AllSpace l) : lstrip l = [] := by
  have := lstrip_append_all l [] h
  rwa [List.append_nil] at this

theorem all_strip (s : Str) : (strip s).all isPySpace = s.all isPySpace := by
  have key (t : Str) : (t.dropWhile isPySpace).all isPySpace = t.all isPySpace := by
    rw [List.all_eq_not_any_not, List.any_dropWhile, Bool.not_not]
  rw [strip, rstrip, List.all_reverse, key, List.all_reverse, lstrip, key]

theorem strip_eq_nil_iff (s : Str) : strip s = [] ↔ AllSpace s := by
  constructor
  · intro h
    have := all_strip s
    rw [h, List.all_nil, eq_comm, List.all_eq_true] at this
    exact this
  · intro h
    rw [strip, lstrip_all s h]
    rfl

theorem strip_decorated (l f r : Str) (hl : AllSpace l) (hr : AllSpace r) (hf : strip f = f) :
    strip (l ++ f ++ r) = f := by
  cases f with
  | nil => exact (strip_eq_nil_iff _).2 (List.forall_mem_append.2 ⟨by rwa [List.append_nil], hr⟩)
  | cons x xs =>
    rw [strip, List.append_assoc, lstrip_append_all _ _ hl, List.cons_append, lstrip,
      List.dropWhile_cons_of_neg (Bool.eq_false_iff.1 (head_not_space hf)), ← List.cons_append,
      rstrip_append_all _ _ hr, rstrip_of_strip_eq _ hf]

theorem strip_none (s : Str) (h : ∀ c ∈ s, isPySpace c = false) : strip s = s := by
  have key (t : Str) (ht : ∀ c ∈ t, isPySpace c = false) : t.dropWhile isPySpace = t := by
    cases t with
    | nil => rfl
    | cons x xs => exact List.dropWhile_cons_of_neg (Bool.eq_false_iff.1 (ht x List.mem_cons_self))
  rw [strip, lstrip, key s h, rstrip, key _ fun c hc => h c (List.mem_reverse.1 hc), List.reverse_reverse]

/-! ### split / join -/

theorem splitOnChar_eq_splitOn (c : Char) (s : Str) : splitOnChar c s = s.splitOn c := by
  induction s with
  | nil => rfl
  | cons x xs ih =>
    rw [splitOnChar, List.splitOn_cons_eq_if_modifyHead, ih]
    simp only [beq_iff_eq]
    cases h : xs.splitOn c with
    | nil => exact absurd h (List.splitOn_ne_nil c xs)
    | cons a t => rfl

theorem joinWith_eq_intercalate (sep : Str) (ps : List Str) : joinWith sep ps = sep.intercalate ps := by
  fun_induction joinWith sep ps with
  | case1 => rfl
  | case2 p => exact List.intercalate_singleton.symm
  | case3 p q rest ih => rw [ih, List.intercalate_cons_cons]

theorem splitOnChar_ne_nil (c : Char) (s : Str) : splitOnChar c s ≠ [] :=
  splitOnChar_eq_splitOn c s ▸ List.splitOn_ne_nil c s

theorem splitOnChar_append_sep (c : Char) (p rest : Str) (h : c ∉ p) :
    splitOnChar c (p ++ c :: rest) = p :: splitOnChar c rest := by
  rw [splitOnChar_eq_splitOn, splitOnChar_eq_splitOn, List.splitOn_append_cons_self_of_not_mem h]

theorem splitOnChar_none (c : Char) (p : Str) (h : c ∉ p) : splitOnChar c p = [p] :=
  (splitOnChar_eq_splitOn c p).trans (List.splitOn_eq_singleton h)

theorem splitOnChar_joinWith (c : Char) (ps : List Str) (hne : ps ≠ []) (h : ∀ p ∈ ps, c ∉ p) :
    splitOnChar c (joinWith [c] ps) = ps := by
  rw [splitOnChar_eq_splitOn, joinWith_eq_intercalate, List.splitOn_intercalate c h hne]

theorem joinWith_append (sep : Str) (l₁ l₂ : List Str) (h₁ : l₁ ≠ []) (h₂ : l₂ ≠ []) :
    joinWith sep (l₁ ++ l₂) = joinWith sep l₁ ++ sep ++ joinWith sep l₂ := by
  fun_induction joinWith sep l₁ with
  | case1 => contradiction
  | case2 p =>
    cases l₂ with
    | nil => contradiction
    | cons q r => rfl
  | case3 p q rest ih =>
    rw [List.cons_append, List.cons_append, joinWith, ← List.cons_append, ih (List.cons_ne_nil _ _)]
    simp only [List.append_assoc]

theorem joinWith_cons_head (sep : Str) (x : Char) (q : Str) (t : List Str) :
    joinWith sep ((x :: q) :: t) = x :: joinWith sep (q :: t) := by
  cases t <;> rfl

theorem joinWith_cons_eq_append (sep p : Str) (ps : List Str) : ∃ t, joinWith sep (p :: ps) = p ++ t := by
  cases ps with
  | nil => exact ⟨[], (List.append_nil p).symm⟩
  | cons q rest => exact ⟨_, List.append_assoc p sep _⟩

theorem head?_joinWith (sep p : Str) (rest : List Str) (h : p ≠ []) :
    (joinWith sep (p :: rest)).head? = p.head? := by
  obtain ⟨x, xs, rfl⟩ := List.exists_cons_of_ne_nil h
  rw [joinWith_cons_head]
  rfl

theorem mem_joinWith (sep : Str) (ps : List Str) (c : Char) (h : c ∈ joinWith sep ps) :
    c ∈ sep ∨ ∃ p ∈ ps, c ∈ p := by
  fun_induction joinWith sep ps with
  | case1 => cases h
  | case2 p => exact Or.inr ⟨p, List.mem_cons_self, h⟩
  | case3 p q rest ih =>
    rcases List.mem_append.1 h with h | h
    · exact (List.mem_append.1 h).elim (fun h => Or.inr ⟨p, List.mem_cons_self, h⟩) Or.inl
    · exact (ih h).imp id fun ⟨p', hp', h⟩ => ⟨p', List.mem_cons_of_mem _ hp', h⟩

theorem joinWith_commaSpace (p : Str) (ps : List Str) :
    joinWith commaSpace (p :: ps) = joinWith [','] (p :: ps.map (' ' :: ·)) := by
  induction ps generalizing p with
  | nil => rfl
  | cons q rest ih =>
    rw [joinWith, ih, List.map_cons, joinWith, joinWith_cons_head, commaSpace, List.append_assoc, List.append_assoc]
    rfl

theorem parseLine_joinWith_comma (ps : List Str) (hne : ps ≠ []) (h : ∀ p ∈ ps, ',' ∉ p) :
    parseLine (joinWith [','] ps) = ps.map strip := by
  rw [parseLine, splitOnChar_joinWith ',' ps hne h]

/-! ### `LineOK` and `keepLine` -/

theorem LineOK.append {a b : Str} (ha : LineOK a) (hb : LineOK b) : LineOK (a ++ b) :=
  ⟨fun h => (List.mem_append.1 h).elim ha.1 hb.1, fun h => (List.mem_append.1 h).elim ha.2 hb.2⟩

theorem lineOK_joinWith (sep : Str) (ps : List Str) (hs : LineOK sep) (hp : ∀ p ∈ ps, LineOK p) :
    LineOK (joinWith sep ps) := by
  constructor <;> intro hm <;> rcases mem_joinWith _ _ _ hm with h | ⟨p, hp', h⟩
  · exact hs.1 h
  · exact (hp p hp').1 h
  · exact hs.2 h
  · exact (hp p hp').2 h

theorem keepLine_iff (l : Str) : keepLine l = true ↔ ¬AllSpace l ∧ l.head? ≠ some '#' := by
  simp only [keepLine, Bool.and_eq_true, Bool.not_eq_true', List.isEmpty_eq_false_iff, bne_iff_ne, ne_eq, strip_eq_nil_iff]

theorem keepLine_of_hash (l : Str) (h : l.head? = some '#') : keepLine l = false :=
  Bool.eq_false_iff.2 fun hk => ((keepLine_iff l).1 hk).2 h

theorem keepLine_blank (ws : Str) (h : AllSpace ws) : keepLine ws = false :=
  Bool.eq_false_iff.2 fun hk => ((keepLine_iff ws).1 hk).1 h

theorem keepLine_nil : keepLine [] = false := keepLine_blank [] (List.forall_mem_nil _)

theorem keepLine_of_prefix (l : Str) (x : Char) (t : Str) (hl : AllSpace l) (hx : isPySpace x = false) (hh : x ≠ '#') :
    keepLine (l ++ x :: t) = true := by
  refine (keepLine_iff _).2 ⟨fun h => ?_, ?_⟩
  · simp [h x (by simp)] at hx
  · cases l with
    | nil => exact fun e => hh (Option.some.inj e)
    | cons c l' => exact fun e => absurd (Option.some.inj e ▸ hl c List.mem_cons_self) (by decide)  -- '#' is no blank

/-! ### decorated lines -/

theorem mem_decorate {ls rs fs : List Str} {p : Str} (h : p ∈ decorate ls rs fs) :
    ∃ l ∈ ls, ∃ r ∈ rs, ∃ f ∈ fs, p = l ++ f ++ r := by
  fun_induction decorate ls rs fs with
  | case1 l ls r rs f fs ih =>
    rcases List.mem_cons.1 h with rfl | h
    · exact ⟨l, List.mem_cons_self, r, List.mem_cons_self, f, List.mem_cons_self, rfl⟩
    · obtain ⟨l', hl', r', hr', f', hf', e⟩ := ih h
      exact ⟨l', List.mem_cons_of_mem _ hl', r', List.mem_cons_of_mem _ hr', f', List.mem_cons_of_mem _ hf', e⟩
  | case2 => cases h

theorem map_strip_decorate (ls rs fs : List Str) (hl : ls.length = fs.length) (hr : rs.length = fs.length)
    (hbl : ∀ l ∈ ls, AllSpace l) (hbr : ∀ r ∈ rs, AllSpace r) (hf : ∀ f ∈ fs, strip f = f) :
    (decorate ls rs fs).map strip = fs := by
  induction fs generalizing ls rs with
  | nil => cases ls <;> cases rs <;> rfl
  | cons f fs ih =>
    obtain ⟨l, ls, rfl⟩ := List.exists_cons_of_length_eq_add_one hl
    obtain ⟨r, rs, rfl⟩ := List.exists_cons_of_length_eq_add_one hr
    obtain ⟨hbl, hbls⟩ := List.forall_mem_cons.1 hbl
    obtain ⟨hbr, hbrs⟩ := List.forall_mem_cons.1 hbr
    obtain ⟨hf, hfs⟩ := List.forall_mem_cons.1 hf
    rw [decorate, List.map_cons, strip_decorated l f r hbl hbr hf,
      ih ls rs (Nat.succ.inj hl) (Nat.succ.inj hr) hbls hbrs hfs]

theorem not_mem_of_allSpace {l : Str} (h : AllSpace l) {c : Char} (hc : isPySpace c = false) : c ∉ l :=
  fun hm => by simp [h c hm] at hc

theorem not_mem_decorate (c : Char) (ls rs fs : List Str) (hl : ∀ l ∈ ls, c ∉ l) (hr : ∀ r ∈ rs, c ∉ r)
    (hf : ∀ f ∈ fs, c ∉ f) : ∀ p ∈ decorate ls rs fs, c ∉ p := by
  intro p hp h
  obtain ⟨l, hl', r, hr', f, hf', rfl⟩ := mem_decorate hp
  exact (List.mem_append.1 h).elim (fun h => (List.mem_append.1 h).elim (hl l hl') (hf f hf')) (hr r hr')

theorem lineOK_decorated (ls rs fs : List Str) (hbl : ∀ l ∈ ls, Blank l) (hbr : ∀ r ∈ rs, Blank r)
    (hf : ∀ f ∈ fs, FieldOK f) : LineOK (joinWith [','] (decorate ls rs fs)) :=
  lineOK_joinWith _ _ ⟨by decide, by decide⟩ fun p hp =>
    ⟨not_mem_decorate '\n' ls rs fs (fun l h => (hbl l h).2.1) (fun r h => (hbr r h).2.1) (fun f h => (hf f h).2.1) p hp,
     not_mem_decorate '\r' ls rs fs (fun l h => (hbl l h).2.2) (fun r h => (hbr r h).2.2) (fun f h => (hf f h).2.2.1) p hp⟩

theorem RowOK.ne_nil {r : List Str} (h : RowOK r) : r ≠ [] := by
  obtain ⟨_, _, _, rfl, _⟩ := h
  exact List.cons_ne_nil _ _

theorem keepLine_decorated (ls rs fs : List Str) (hl : ls.length = fs.length) (hr : rs.length = fs.length)
    (hbl : ∀ l ∈ ls, AllSpace l) (hrow : RowOK fs) : keepLine (joinWith [','] (decorate ls rs fs)) = true := by
  obtain ⟨hf, f, rest, rfl, hne, hh⟩ := hrow
  obtain ⟨l, ls, rfl⟩ := List.exists_cons_of_length_eq_add_one hl
  obtain ⟨r, rs, rfl⟩ := List.exists_cons_of_length_eq_add_one hr
  obtain ⟨x, xs, rfl⟩ := List.exists_cons_of_ne_nil hne
  obtain ⟨t, ht⟩ := joinWith_cons_eq_append [','] (l ++ (x :: xs) ++ r) (decorate ls rs rest)
  rw [decorate, ht, List.append_assoc, List.append_assoc, List.cons_append]
  exact keepLine_of_prefix l x _ (hbl l List.mem_cons_self) (head_not_space (hf _ List.mem_cons_self).2.2.2)
    fun e => hh (congrArg some e)

theorem map_wrap_eq_decorate {α : Type} (L φ R : α → Str) (xs : List α) :
    xs.map (fun x => L x ++ φ x ++ R x) = decorate (xs.map L) (xs.map R) (xs.map φ) := by
  induction xs with
  | nil => rfl
  | cons x xs ih => simp only [List.map_cons, decorate, ih]

-- both paddings as one `map`, in the shape `map_wrap_eq_decorate` takes: `L x ++ φ x ++ R x` with `R = fun _ => []` (hence
-- the `++ []`) and `L` so many spaces, `k` of them whatever `pad` is (hence the `∃ k`)
theorem renderRow_eq (pad : Option (List Nat)) (r : List Str) : ∃ k : Str × Nat → Nat,
    renderRow pad r = joinWith commaSpace (r.zipIdx.map fun fi => List.replicate (k fi) ' ' ++ fi.1 ++ []) := by
  cases pad with
  | none => exact ⟨fun _ => 0, by simp [renderRow, List.zipIdx_map_fst]⟩
  | some p =>
    refine ⟨fun fi => p[fi.2]?.elim 0 (· - fi.1.length), ?_⟩
    simp only [renderRow, applyPadding]
    congr 2
    funext fi
    cases p[fi.2]? <;> simp [rjust]

theorem blank_replicate (k : Nat) : Blank (List.replicate k ' ') :=
  ⟨fun _ hc => List.eq_of_mem_replicate hc ▸ by decide, fun hm => absurd (List.eq_of_mem_replicate hm) (by decide),
    fun hm => absurd (List.eq_of_mem_replicate hm) (by decide)⟩

/-- the spaces before a field are the justification and the space after the comma -/
theorem renderRow_decorated (pad : Option (List Nat)) (r : List Str) :
    ∃ ls rs, ls.length = r.length ∧ rs.length = r.length ∧ (∀ l ∈ ls, Blank l) ∧ (∀ r' ∈ rs, Blank r') ∧
      renderRow pad r = joinWith [','] (decorate ls rs r) := by
  obtain ⟨k, hk⟩ := renderRow_eq pad r
  cases r with
  | nil => exact ⟨[], [], rfl, rfl, List.forall_mem_nil _, List.forall_mem_nil _, hk⟩
  | cons f rest =>
    have h := map_wrap_eq_decorate (fun fi => ' ' :: List.replicate (k fi) ' ') (·.1) (fun _ => []) (rest.zipIdx 1)
    rw [List.zipIdx_map_fst] at h
    refine ⟨List.replicate (k (f, 0)) ' ' :: (rest.zipIdx 1).map fun fi => ' ' :: List.replicate (k fi) ' ',
      [] :: (rest.zipIdx 1).map fun _ => [], by simp, by simp, ?_, ?_, ?_⟩
    · exact List.forall_mem_cons.2 ⟨blank_replicate _, List.forall_mem_map.2 fun fi _ => blank_replicate (k fi + 1)⟩
    · exact List.forall_mem_cons.2 ⟨blank_replicate 0, List.forall_mem_map.2 fun _ _ => blank_replicate 0⟩
    · rw [hk, List.zipIdx_cons, List.map_cons, joinWith_commaSpace, List.map_map, decorate, ← h]
      rfl

theorem renderRow_line (pad : Option (List Nat)) (r : List Str) (hr : RowOK r) :
    LineOK (renderRow pad r) ∧ keepLine (renderRow pad r) = true := by
  obtain ⟨ls, rs, hl, hr', hbl, hbr, e⟩ := renderRow_decorated pad r
  rw [e]
  exact ⟨lineOK_decorated ls rs r hbl hbr hr.1, keepLine_decorated ls rs r hl hr' (fun l h => (hbl l h).1) hr⟩

/-! ### physical lines and `glue` -/

-- `splitLines.eq_n` is the n-th clause of the definition: 2 for `\r\n`, 3 for `\r` not followed by `\n` (a side condition,
-- as is "neither `\r` nor `\n`" in 5), 4 for `\n`, 5 for any other character
theorem splitLines_cons_other (c : Char) (rest : Str) (h1 : c ≠ '\n') (h2 : c ≠ '\r') :
    splitLines (c :: rest) = match splitLines rest with
      | h :: t => (c :: h) :: t
      | [] => [[c]] :=
  splitLines.eq_5 c rest (fun _ h _ => h2 h) h2 h1

theorem splitLines_append_line (l rest h : Str) (t : List Str) (hl : LineOK l) (hs : splitLines rest = h :: t) :
    splitLines (l ++ rest) = (l ++ h) :: t := by
  induction l with
  | nil => exact hs
  | cons x xs ih =>
    rw [List.cons_append, splitLines_cons_other x _ (fun e => hl.1 (e ▸ List.mem_cons_self))
        (fun e => hl.2 (e ▸ List.mem_cons_self)),
      ih ⟨fun hm => hl.1 (List.mem_cons_of_mem _ hm), fun hm => hl.2 (List.mem_cons_of_mem _ hm)⟩]
    rfl

theorem splitLines_line (l : Str) (hl : LineOK l) : splitLines l = [l] := by
  have := splitLines_append_line l [] [] [] hl rfl
  rwa [List.append_nil] at this

theorem filter_keepLine_of_false {l : Str} (h : keepLine l = false) (t : List Str) :
    (l :: t).filter keepLine = t.filter keepLine :=
  List.filter_cons_of_neg (Bool.eq_false_iff.1 h)

theorem splitLines_eol (e rest : Str) (he : IsEol e) :
    ∃ t, splitLines (e ++ rest) = [] :: t ∧ t.filter keepLine = (splitLines rest).filter keepLine := by
  rcases he with rfl | rfl | rfl
  · exact ⟨_, splitLines.eq_4 rest, rfl⟩
  · exact ⟨_, splitLines.eq_2 rest, rfl⟩
  · cases rest with
    | nil => exact ⟨_, splitLines.eq_3 [] (fun _ h => by cases h), rfl⟩
    | cons c rest' =>
      by_cases hc : c = '\n'
      · subst hc
        refine ⟨_, splitLines.eq_2 rest', ?_⟩
        rw [splitLines.eq_4, filter_keepLine_of_false keepLine_nil]
      · exact ⟨_, splitLines.eq_3 (c :: rest') (fun _ h => by injection h with h _; exact hc h), rfl⟩

theorem filter_splitLines_line (l e rest : Str) (hl : LineOK l) (he : IsEol e) :
    (splitLines (l ++ (e ++ rest))).filter keepLine = (l :: splitLines rest).filter keepLine := by
  obtain ⟨t, h1, h2⟩ := splitLines_eol e rest he
  rw [splitLines_append_line l _ [] t hl h1, List.append_nil, List.filter_cons, List.filter_cons, h2]

theorem filter_splitLines_glue (lines eols : List Str) (hl : ∀ l ∈ lines, LineOK l) (he : ∀ e ∈ eols, IsEol e) :
    (splitLines (glue lines eols)).filter keepLine = lines.filter keepLine := by
  fun_induction glue lines eols with
  | case1 => exact filter_keepLine_of_false keepLine_nil []
  | case2 l => rw [splitLines_line l (hl l List.mem_cons_self)]
  | case3 l ls e es ih =>
    obtain ⟨hl1, hl2⟩ := List.forall_mem_cons.1 hl
    obtain ⟨he1, he2⟩ := List.forall_mem_cons.1 he
    rw [List.append_assoc, filter_splitLines_line l _ _ hl1 he1, List.filter_cons, ih hl2 he2, ← List.filter_cons]
  | case4 l ls _ ih =>
    obtain ⟨hl1, hl2⟩ := List.forall_mem_cons.1 hl
    rw [List.append_assoc, filter_splitLines_line l _ _ hl1 (Or.inl rfl), List.filter_cons, ih hl2 he,
      ← List.filter_cons]

theorem glue_replicate_nl (ls : List Str) :
    glue ls (List.replicate ls.length nl) = (ls.map (fun l => l ++ nl)).flatten := by
  induction ls with
  | nil => rfl
  | cons l rest ih => simp [List.replicate_succ, glue, ih]

theorem renderFile_eq_glue (formatLine header : Str) (pad : Option (List Nat)) (rows : List (List Str)) :
    renderFile formatLine header pad rows =
      glue (formatLine :: header :: rows.map (renderRow pad)) (List.replicate (rows.length + 2) nl) := by
  have := glue_replicate_nl (formatLine :: header :: rows.map (renderRow pad))
  simp only [List.length_cons, List.length_map] at this
  simp [this, renderFile, Function.comp_def]

/-! ### integers -/

def readStep (acc : Option Nat) (c : Char) : Option Nat :=
  acc.bind (fun a => (digitVal c).map (fun d => 10 * a + d))

theorem readNat_eq (s : Str) : readNat s = if s.isEmpty then none else s.foldl readStep (some 0) := rfl

theorem readInt_neg (s : Str) : readInt ('-' :: s) = (readNat s).map (fun n => -(n : Int)) := rfl

theorem digitVal_digitChar : ∀ d, d < 10 → digitVal (digitChar d) = some d := by decide

theorem readStep_digit (a d : Nat) (hd : d < 10) : readStep (some a) (digitChar d) = some (10 * a + d) := by
  simp [readStep, digitVal_digitChar d hd]

theorem foldl_readStep_zeros (k : Nat) : (List.replicate k '0').foldl readStep (some 0) = some 0 := by
  induction k with
  | zero => rfl
  | succ k ih => rw [List.replicate_succ, List.foldl_cons, show readStep (some 0) '0' = some 0 by decide, ih]

/-- digits behind a string that reads as 0 (leading zeros, or nothing) read as their number -/
theorem foldl_readStep_digits (z : Str) (hz : z.foldl readStep (some 0) = some 0) (fuel n : Nat) (h : n < fuel) :
    (z ++ natDigits fuel n).foldl readStep (some 0) = some n := by
  fun_induction natDigits fuel n with
  | case1 => omega
  | case2 fuel n hn =>
    rw [List.foldl_append, hz, List.foldl_cons, List.foldl_nil, readStep_digit 0 n hn, Nat.mul_zero, Nat.zero_add]
  | case3 fuel n hn ih =>
    rw [← List.append_assoc, List.foldl_append, ih (by omega), List.foldl_cons, List.foldl_nil,
      readStep_digit _ _ (Nat.mod_lt _ (by decide)), Nat.div_add_mod]

theorem natDigits_ne_nil (fuel n : Nat) : natDigits (fuel + 1) n ≠ [] := by
  unfold natDigits
  split <;> simp

theorem readNat_zeros_digits (k n : Nat) : readNat (List.replicate k '0' ++ natDigits (n + 1) n) = some n := by
  rw [readNat_eq, foldl_readStep_digits _ (foldl_readStep_zeros k) _ n (Nat.lt_succ_self n)]
  simp [natDigits_ne_nil n n]

theorem readNat_natDigits (n : Nat) : readNat (natDigits (n + 1) n) = some n := readNat_zeros_digits 0 n

/-- the characters `showInt` can produce -/
def IsIntChar (c : Char) : Prop := c = '-' ∨ ∃ d, d < 10 ∧ c = digitChar d

theorem natDigits_chars (fuel n : Nat) : ∀ c ∈ natDigits fuel n, ∃ d, d < 10 ∧ c = digitChar d := by
  fun_induction natDigits fuel n with
  | case1 => exact List.forall_mem_nil _
  | case2 fuel n hn => exact fun c hc => ⟨n, hn, List.mem_singleton.1 hc⟩
  | case3 fuel n hn ih =>
    intro c hc
    rcases List.mem_append.1 hc with hc | hc
    · exact ih c hc
    · exact ⟨n % 10, Nat.mod_lt _ (by decide), List.mem_singleton.1 hc⟩

theorem digitChar_not_sign : ∀ d, d < 10 → digitChar d ≠ '-' ∧ digitChar d ≠ '+' := by decide

structure IntCharFacts (c : Char) : Prop where
  ne_comma : c ≠ ','
  ne_lf : c ≠ '\n'
  ne_cr : c ≠ '\r'
  ne_hash : c ≠ '#'
  not_space : isPySpace c = false

theorem IsIntChar.facts {c : Char} (h : IsIntChar c) : IntCharFacts c := by
  obtain ⟨h1, h2, h3, h4, h5⟩ : c ≠ ',' ∧ c ≠ '\n' ∧ c ≠ '\r' ∧ c ≠ '#' ∧ isPySpace c = false := by
    rcases h with rfl | ⟨d, hd, rfl⟩
    · decide
    · revert d
      decide +kernel
  exact ⟨h1, h2, h3, h4, h5⟩

theorem readInt_of_head (c : Char) (t : Str) (h1 : c ≠ '-') (h2 : c ≠ '+') :
    readInt (c :: t) = (readNat (c :: t)).map (fun n => (n : Int)) := by
  unfold readInt
  split
  · next h => exact absurd (List.cons.inj h).1 h1
  · next h => exact absurd (List.cons.inj h).1 h2
  · rfl

/-- a string of digits carries no sign -/
theorem readInt_of_digits (s : Str) (h : ∀ c ∈ s, ∃ d, d < 10 ∧ c = digitChar d) :
    readInt s = (readNat s).map (fun n => (n : Int)) := by
  cases s with
  | nil => rfl
  | cons c t =>
    obtain ⟨d, hd, rfl⟩ := h c List.mem_cons_self
    exact readInt_of_head _ t (digitChar_not_sign d hd).1 (digitChar_not_sign d hd).2

theorem readInt_zeros_digits (k n : Nat) :
    readInt (List.replicate k '0' ++ natDigits (n + 1) n) = some (n : Int) := by
  rw [readInt_of_digits, readNat_zeros_digits k n]
  · rfl
  · intro c hc
    rcases List.mem_append.1 hc with hc | hc
    · exact ⟨0, by decide, List.eq_of_mem_replicate hc⟩
    · exact natDigits_chars _ _ c hc

theorem readInt_natDigits (n : Nat) : readInt (natDigits (n + 1) n) = some (n : Int) := readInt_zeros_digits 0 n

theorem showInt_chars (i : Int) : ∀ c ∈ showInt i, IsIntChar c := by
  intro c hc
  unfold showInt at hc
  split at hc
  · exact (List.mem_cons.1 hc).imp id (natDigits_chars _ _ c)
  · exact Or.inr (natDigits_chars _ _ c hc)

theorem showInt_ne_nil (i : Int) : showInt i ≠ [] := by
  unfold showInt
  split
  · exact List.cons_ne_nil _ _
  · exact natDigits_ne_nil _ _

end Kapture.Csv
