/-
  Lemmas/C16.lean — refusing names by one pass over the generated table of element types, and the inversion of a successful
  `C20.plan` down to the moves of its folder plans.
-/
import Kapture.Model.C16
import Kapture.Lemmas.C20

namespace Kapture.C16
open Kapture.C20

/-- explicit type names given on the command line are single, harmless path components -/
def ParamsOK (p : Params) : Prop :=
  (∀ s, p.kp = some s → nameOK s = true ∧ s ≠ "") ∧ (∀ s, p.desc = some s → nameOK s = true ∧ s ≠ "") ∧
  (∀ s, p.gf = some s → nameOK s = true ∧ s ≠ "")

theorem parseDtype_of_find_some (s : String) (e : String × String)
    (h : Gen.DtypeNames.accepted.find? (fun e => e.1 == s) = some e) :
    parseDtype s = Except.ok e.2 := by
  unfold parseDtype; rw [h]

theorem parseDtype_of_find_none (s : String) (h : Gen.DtypeNames.accepted.find? (fun e => e.1 == s) = none) :
    parseDtype s = Except.error "ValueError" := by
  unfold parseDtype; rw [h]

/-- The hypothesis is ONE pass over the table for all of `bad`: the kernel spends nearly all the work of a lookup on turning
  the names of the table into bytes, so a pass that looks for several strings is hardly dearer than a lookup of one. -/
theorem parseDtype_rejects {bad : List String}
    (h : Gen.DtypeNames.accepted.all (fun e => !bad.contains e.1) = true) {s : String} (hs : s ∈ bad) :
    parseDtype s = Except.error "ValueError" := by
  have hnone : Gen.DtypeNames.accepted.find? (fun e => e.1 == s) = none := by
    rw [List.find?_eq_none]
    intro e he hes
    have hn := List.all_eq_true.mp h e he
    rw [beq_iff_eq.mp hes] at hn
    simp [hs] at hn
  exact parseDtype_of_find_none s hnone

theorem bind_eq_ok {ε α β : Type} {x : Except ε α} {f : α → Except ε β} {b : β} (h : x >>= f = Except.ok b) :
    ∃ a, x = Except.ok a ∧ f a = Except.ok b := by
  cases x with
  | error e => cases h
  | ok a => exact ⟨a, rfl, h⟩

theorem plan_folders_moves {p : Params} {t : Tree} {pl : Plan} (h : plan p t = Except.ok pl)
    {f : FolderPlan} (hf : f ∈ pl.folders) :
    ∃ dir ty ext, f.moves = movesOf dir ty (deepestFirst (filesUnder t dir ext)) ∧
      dir ∈ ["reconstruction/keypoints", "reconstruction/descriptors", "reconstruction/matches", "reconstruction/global_features"] := by
  unfold plan at h
  obtain ⟨⟨kt, kplan⟩, hk, h⟩ := bind_eq_ok h
  obtain ⟨dplan, hd, h⟩ := bind_eq_ok h
  obtain ⟨mplan, hm, h⟩ := bind_eq_ok h
  obtain ⟨gplan, hg, h⟩ := bind_eq_ok h
  obtain ⟨obs, -, h⟩ := bind_eq_ok h
  cases h
  simp only [List.mem_filterMap, List.mem_cons, List.not_mem_nil, or_false, id] at hf
  obtain ⟨o, ho, rfl⟩ := hf
  -- whichever step made `f`: split down to its leaves, the step's equation reads `throw _ = ok _`, `pure … none = ok … (some f)`
  -- or, at the single leaf that returns a folder plan, identifies `f` with the plan built there; `cases` refutes the others, and
  -- at that leaf `moves` is spelt as the very `map` that `movesOf` unfolds to, whence `rfl`
  rcases ho with rfl | rfl | rfl | rfl
  · repeat' split at hk
    all_goals cases hk
    exact ⟨_, _, _, rfl, .head _⟩
  · repeat' split at hd
    all_goals cases hd
    exact ⟨_, _, _, rfl, .tail _ (.head _)⟩
  · repeat' split at hm
    all_goals cases hm
    exact ⟨_, _, _, rfl, .tail _ (.tail _ (.head _))⟩
  · repeat' split at hg
    all_goals cases hg
    exact ⟨_, _, _, rfl, .tail _ (.tail _ (.tail _ (.head _)))⟩

end Kapture.C16
