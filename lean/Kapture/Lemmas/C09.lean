/-
  Lemmas/C09.lean — the specifications the C09 theorems are stated against, and the idea their proofs share: a first-wins
  insertion loop answers every lookup like the concatenation of its bindings (`get?_insFold`, `get?_insFold₂`).
-/
import Kapture.Model.C09

namespace Kapture.C09

/-- the merged table of one attribute, `none` when the attribute is left unset -/
def mergedPart (skip : List String) (inputs : List Input) (attr : String) : Option Table :=
  (Dict.get? attr (mergeSimple skip inputs)).join

/-- first-wins specification: the entry of the earliest input that defines the key -/
def firstDefined (ts : List (Option Table)) (k : Key) : Option String :=
  ts.findSome? (fun t => t.bind (Dict.get? k))

/-- index of the first input whose collection lists image `name` under feature type `ty` -/
def firstFeatSource (ty name : String) (inputs : List (Option FeatColl)) : Option Nat :=
  inputs.zipIdx.findSome? (fun ci =>
    ci.1.bind (fun c => (Dict.get? ty c).bind (fun s => if s.images.contains name then some ci.2 else none)))

def firstMatchSource (ty : String) (p : String × String) (inputs : List (Option MatchColl)) : Option Nat :=
  inputs.zipIdx.findSome? (fun ci =>
    ci.1.bind (fun c => (Dict.get? ty c).bind (fun ps => if ps.contains p then some ci.2 else none)))

def firstFileSource (name : String) (lists : List (List String)) : Option Nat :=
  lists.zipIdx.findSome? (fun li => if li.1.contains name then some li.2 else none)

def simpleAttrs : List String :=
  ["sensors", "rigs", "trajectories", "records_camera", "records_depth", "records_lidar", "records_wifi",
   "records_bluetooth", "records_gnss", "records_accelerometer", "records_gyroscope", "records_magnetic"]

section generic
variable {κ ν α β : Type} [DecidableEq κ]

theorem get?_flatMap (k : κ) (F : β → List (κ × ν)) (xs : List β) :
    Dict.get? k (xs.flatMap F) = xs.findSome? (fun x => Dict.get? k (F x)) := by
  induction xs with
  | nil => rfl
  | cons x t ih =>
    rw [List.flatMap_cons, Dict.get?_append, ih, List.findSome?_cons]
    cases Dict.get? k (F x) <;> rfl

theorem get?_map_const [BEq κ] [LawfulBEq κ] (k : κ) (c : ν) (l : List κ) :
    Dict.get? k (l.map (fun a => (a, c))) = if l.contains k then some c else none := by
  induction l with
  | nil => rfl
  | cons hd t ih =>
    rw [List.map_cons, Dict.get?, ih, List.contains_cons]
    by_cases h : hd = k
    · simp [h]
    · simp [h, Ne.symm h]

theorem get?_map_val {ν' : Type} (f : κ → ν → ν') (l : List (κ × ν)) (k : κ) :
    Dict.get? k (l.map (fun e => (e.1, f e.1 e.2))) = (Dict.get? k l).map (f k) := by
  fun_induction Dict.get? k l with
  | case1 => rfl
  | case2 r v => exact if_pos rfl
  | case3 k' v r hne ih => exact (if_neg hne).trans ih

theorem get?_insFold (b : α → κ × ν) (l : List α) (acc : List (κ × ν)) (k : κ) :
    Dict.get? k (l.foldl (fun acc a => if Dict.has (b a).1 acc then acc else Dict.set (b a).1 (b a).2 acc) acc)
      = Dict.get? k (acc ++ l.map b) := by
  induction l generalizing acc with
  | nil => rw [List.map_nil, List.append_nil]; rfl
  | cons a t ih =>
    rw [List.foldl_cons, ih, List.map_cons, List.append_cons, Dict.get?_append, Dict.get?_setdefault, ← Dict.get?_append]

/-- `step` is the loop body as the model writes it -/
theorem get?_insFold₂ {step : List (κ × ν) → β → List (κ × ν)} (L : β → List α) (b : β → α → κ × ν)
    (hstep : ∀ acc x, step acc x = (L x).foldl (fun acc a =>
      if Dict.has (b x a).1 acc then acc else Dict.set (b x a).1 (b x a).2 acc) acc)
    (xs : List β) (acc : List (κ × ν)) (k : κ) :
    Dict.get? k (xs.foldl step acc) = Dict.get? k (acc ++ xs.flatMap (fun x => (L x).map (b x))) := by
  induction xs generalizing acc with
  | nil => rw [List.flatMap_nil, List.append_nil]; rfl
  | cons x t ih =>
    rw [List.foldl_cons, ih, hstep, List.flatMap_cons, ← List.append_assoc, Dict.get?_append, get?_insFold,
      ← Dict.get?_append]

theorem findSome?_filterMap {γ δ : Type} (g : β → Option γ) (f : γ → Option δ) (l : List β) :
    (l.filterMap g).findSome? f = l.findSome? (fun a => (g a).bind f) := by
  rw [← List.head?_filterMap, List.filterMap_filterMap, List.head?_filterMap]

theorem mem_addNew (acc : List String) (k ty : String) :
    ty ∈ (if acc.contains k then acc else acc ++ [k]) ↔ ty ∈ acc ∨ ty = k := by
  split
  · next h => exact ⟨Or.inl, fun h' => h'.elim id (fun e => e ▸ List.contains_iff_mem.mp h)⟩
  · rw [List.mem_append, List.mem_singleton]

theorem mem_typesFold {ν : Type} (c : List (String × ν)) (acc : List String) (ty : String) :
    ty ∈ c.foldl (fun acc e => if acc.contains e.1 then acc else acc ++ [e.1]) acc ↔ ty ∈ acc ∨ ty ∈ Dict.keys c := by
  induction c generalizing acc with
  | nil => simp [Dict.keys]
  | cons e r ih => rw [List.foldl_cons, ih, mem_addNew, or_assoc, Dict.keys, Dict.keys, List.map_cons, List.mem_cons]

theorem mem_typesFold₂ {ν : Type} {step : List String → Option (List (String × ν)) → List String}
    (hstep : ∀ acc c, step acc c =
      (c.getD []).foldl (fun acc e => if acc.contains e.1 then acc else acc ++ [e.1]) acc)
    (inputs : List (Option (List (String × ν)))) (acc : List String) (ty : String) :
    ty ∈ inputs.foldl step acc ↔ ty ∈ acc ∨ ∃ c, some c ∈ inputs ∧ ty ∈ Dict.keys c := by
  induction inputs generalizing acc with
  | nil => simp
  | cons c r ih =>
    rw [List.foldl_cons, ih, hstep, mem_typesFold]
    cases c with
    | none =>
      simp only [Option.getD_none, Dict.keys, List.map_nil, List.not_mem_nil, or_false, List.mem_cons, reduceCtorEq, false_or]
    | some c => simp only [Option.getD_some, List.mem_cons, Option.some.injEq, exists_eq_or_imp, or_assoc]

end generic

theorem mergeTable_all_none (ts : List (Option Table)) (h : ∀ t ∈ ts, t = none) : mergeTable ts = [] :=
  List.foldlRecOn (motive := (· = [])) ts _ rfl fun acc hacc t ht => by rw [h t ht]; exact hacc

theorem mergedPart_eq (skip : List String) (inputs : List Input) (attr : String) :
    mergedPart skip inputs attr =
      if Dict.has attr Gen.MergeDispatch.keepArity then
        if guardHolds skip (guardsOf attr) then getNewIfNotEmpty (mergeTable (inputs.map (fun i => part i attr))) else none
      else none := by
  unfold mergedPart mergeSimple Dict.has
  rw [get?_map_val (fun n _ => if guardHolds skip (guardsOf n) then
    getNewIfNotEmpty (mergeTable (inputs.map (fun i => part i n))) else none)]
  cases Dict.get? attr Gen.MergeDispatch.keepArity <;> rfl

theorem guardHolds_single_skipped (skip : List String) (ty : String) (hs : ty ∈ skip) :
    guardHolds skip [[("not-skipped", [ty])]] = false := by
  simp [guardHolds, hs]

theorem guardHolds_both (skip : List String) (a b : String) :
    guardHolds skip [[("not-skipped", [a, b])]] = (!skip.contains a && !skip.contains b) := by
  simp [guardHolds]

/-- a part assigned on both branches of an `if`/`elif` over the skip list: the second test decides alone -/
theorem guardHolds_first (skip : List String) (a b : String) :
    guardHolds skip [[("not-skipped", [a, b])], [("else-of", [a, b]), ("not-skipped", [a])]] = !skip.contains a := by
  have h : ("else-of" == "not-skipped") = false := by decide
  simp only [guardHolds, List.any_cons, List.any_nil, List.all_cons, List.all_nil, beq_self_eq_true, h, if_true,
    Bool.false_eq_true, if_false, Bool.and_true, Bool.or_false]
  cases skip.contains a <;> cases skip.contains b <;> rfl

/-- the guards of merge_keep_ids as generated: sensors and rigs are assigned unconditionally, every other table part under
  the one type its command-line name stands for -/
theorem keepGuards_tables :
    Dict.get? "sensors" Gen.MergeDispatch.keepGuards = some [[]] ∧
    Dict.get? "rigs" Gen.MergeDispatch.keepGuards = some [[]] ∧
    ∀ attr ∈ simpleAttrs.drop 2,
      Dict.get? attr Gen.MergeDispatch.keepGuards =
        some [[("not-skipped", [(Dict.get? attr Gen.MergeDispatch.skipNames).getD ""])]] ∧
      (Dict.get? attr Gen.MergeDispatch.skipNames).isSome = true := by
  decide +kernel

theorem guardsOf_reconstruction :
    guardsOf "observations" = [[("not-skipped", ["Points3d", "Observations"])]] ∧
    guardsOf "points3d" = [[("not-skipped", ["Points3d", "Observations"])],
      [("else-of", ["Points3d", "Observations"]), ("not-skipped", ["Points3d"])]] := by
  decide +kernel

theorem getNewIfNotEmpty_of_ne_nil {α : Type} (t : List α) (h : t ≠ []) : getNewIfNotEmpty t = some t := by
  cases t with
  | nil => exact absurd rfl h
  | cons a r => rfl

theorem mem_matchTypes (inputs : List (Option MatchColl)) (ty : String) :
    ty ∈ matchTypes inputs ↔ ∃ c, some c ∈ inputs ∧ ty ∈ Dict.keys c :=
  (mem_typesFold₂ (fun _ c => by cases c <;> rfl) inputs [] ty).trans (or_iff_right List.not_mem_nil)

end Kapture.C09
