/-
  Lemmas/C12.lean — the append log read back piecewise, block arithmetic, one append to an archive with links, `packInodes`.
-/
import Kapture.Model.C12

namespace Kapture.C12

theorem read_nil (n : String) : read [] n = none := rfl

theorem read_append (a c : Archive) (n : String) : read (a ++ c) n = (read c n).or (read a n) := by
  unfold read
  rw [List.reverse_append, List.find?_append, Option.map_or]

theorem read_eq_get?_reverse (a : Archive) (n : String) : read a n = Dict.get? n a.reverse :=
  (Dict.get?_eq_find? n a.reverse).symm

theorem read_singleton (e : String × Blob) (n : String) : read [e] n = if e.1 = n then some e.2 else none :=
  read_eq_get?_reverse [e] n  -- `Dict.get? n [e]` unfolds to the right-hand side

theorem read_append_single (a : Archive) (e : String × Blob) (m : String) :
    read (a ++ [e]) m = if e.1 = m then some e.2 else read a m := by
  rw [read_append, read_singleton]
  split <;> rfl

theorem read_cons (e : String × Blob) (a : Archive) (n : String) :
    read (e :: a) n = (read a n).or (if e.1 = n then some e.2 else none) := by
  rw [← read_singleton]
  exact read_append [e] a n

theorem read_isSome_iff (a : Archive) (n : String) : (read a n).isSome = true ↔ n ∈ a.map (·.1) := by
  rw [read_eq_get?_reverse, ← Dict.mem_keys_iff, Dict.keys, List.map_reverse, List.mem_reverse]

theorem read_eq_none_iff (a : Archive) (n : String) : read a n = none ↔ n ∉ a.map (·.1) := by
  rw [← read_isSome_iff, Option.not_isSome_iff_eq_none]

theorem read_some_mem {a : Archive} {n : String} {b : Blob} (h : read a n = some b) : (n, b) ∈ a :=
  List.mem_reverse.1 (Dict.mem_of_get? ((read_eq_get?_reverse a n).symm.trans h))

theorem lengthBytes_append (a c : Archive) : lengthBytes (a ++ c) = lengthBytes a + lengthBytes c := by
  unfold lengthBytes
  rw [List.map_append, List.sum_append]

theorem roundUp512_bounds (n : Nat) : n ≤ roundUp512 n ∧ roundUp512 n < n + 512 := by
  unfold roundUp512; omega

theorem roundUp512_mod (n : Nat) : roundUp512 n % 512 = 0 := Nat.mul_mod_left _ _

theorem lengthBytes_cons (e : String × Blob) (t : Archive) :
    lengthBytes (e :: t) = 512 + roundUp512 e.2.length + lengthBytes t := rfl

theorem lengthBytes_mod (a : Archive) : lengthBytes a % 512 = 0 := by
  induction a with
  | nil => rfl
  | cons e t ih =>
    rw [lengthBytes_cons, roundUp512]
    exact Nat.mod_eq_zero_of_dvd
      (Nat.dvd_add (Nat.dvd_add (Nat.dvd_refl _) (Nat.dvd_mul_left _ _)) (Nat.dvd_of_mod_eq_zero ih))

/-- a data member resolves at once, in whatever archive `A` and with whatever fuel -/
theorem bind_findLatestRev_plain (A : LArchive) (f : Nat) (l : Archive) (n : String) :
    (findLatestRev (l.map fun e => (e.1, Member.data e.2)) n).bind (resolve A (f + 1)) =
      (l.find? (fun e => e.1 == n)).map (·.2) := by
  induction l with
  | nil => rfl
  | cons e l ih =>
    rw [List.map_cons, findLatestRev, List.find?_cons]
    cases e.1 == n
    · exact ih
    · rfl

/-- no symbolic-link member (what `tar` makes of a folder that went through hard-link de-duplication) -/
def NoSym (a : LArchive) : Prop := ∀ e ∈ a, ∀ t, e.2 ≠ Member.sym t

theorem findLatestRev_bounds {l : List (String × Member)} {n : String} {j : Nat} {m : Member}
    (h : findLatestRev l n = some (j, m)) : j < l.length ∧ ∃ nm, (nm, m) ∈ l := by
  fun_induction findLatestRev l n with
  | case1 => cases h
  | case2 e older =>
    cases h
    exact ⟨Nat.lt_succ_self _, e.1, List.mem_cons_self⟩
  | case3 e older n _ ih =>
    obtain ⟨h1, nm, h2⟩ := ih h
    exact ⟨Nat.lt_succ_of_lt h1, nm, List.mem_cons_of_mem _ h2⟩

theorem findLatest_bounds {a : LArchive} {i : Nat} {t : String} {j : Nat} {m : Member}
    (h : findLatest a i t = some (j, m)) : j < i ∧ ∃ nm, (nm, m) ∈ a := by
  obtain ⟨h1, nm, h2⟩ := findLatestRev_bounds h
  rw [List.length_reverse, List.length_take] at h1
  exact ⟨Nat.lt_of_lt_of_le h1 (Nat.min_le_left _ _), nm, List.mem_of_mem_take (List.mem_reverse.1 h2)⟩

theorem findLatest_append_le (a : LArchive) (x : String × Member) {i : Nat} (hi : i ≤ a.length) (t : String) :
    findLatest (a ++ [x]) i t = findLatest a i t := by
  unfold findLatest
  rw [List.take_append_of_le_length hi]

theorem findLatest_append_last (a : LArchive) (x : String × Member) (n : String) :
    findLatest (a ++ [x]) (a ++ [x]).length n = if x.1 == n then some (a.length, x.2) else findLatest a a.length n := by
  unfold findLatest
  rw [List.take_length, List.take_length, List.reverse_append, List.reverse_singleton, List.singleton_append, findLatestRev,
    List.length_reverse]

/-- a member found in an archive without symbolic links resolves inside the part before it, so an append does not change
  what it resolves to -/
theorem bind_resolve_append {a : LArchive} (hns : NoSym a) (x : String × Member) (f : Nat) : ∀ (i : Nat) (t : String),
    i ≤ a.length → (findLatest a i t).bind (resolve (a ++ [x]) f) = (findLatest a i t).bind (resolve a f) := by
  induction f with
  | zero => exact fun i t _ => Option.bind_congr fun _ _ => rfl
  | succ f ih =>
    refine fun i t hi => Option.bind_congr fun ⟨j, m⟩ hf => ?_
    obtain ⟨hj, nm, hmem⟩ := findLatest_bounds hf
    have hja : j ≤ a.length := Nat.le_of_lt (Nat.lt_of_lt_of_le hj hi)
    cases m with
    | data b => rfl
    | sym t' => exact absurd rfl (hns _ hmem t')
    | hard t' =>
      show (findLatest (a ++ [x]) j t').bind (resolve (a ++ [x]) f) = (findLatest a j t').bind (resolve a f)
      rw [findLatest_append_le a x hja, ih j t' hja]

theorem bind_resolve_mono (a : LArchive) (f : Nat) : ∀ (o : Option (Nat × Member)) (b : Blob),
    o.bind (resolve a f) = some b → o.bind (resolve a (f + 1)) = some b := by
  induction f with
  | zero => intro o b h; cases o <;> cases h
  | succ f ih =>
    intro o b h
    obtain ⟨⟨i, m⟩, rfl, hr⟩ := Option.bind_eq_some_iff.1 h
    cases m with
    | data _ => exact hr
    | hard t | sym t => exact ih _ b hr

theorem hard_link_reads_its_target (a : LArchive) (hns : NoSym a) (n t : String) :
    readL (a ++ [(n, Member.hard t)]) n = readL a t := by
  unfold readL
  rw [findLatest_append_last, if_pos (beq_self_eq_true n), List.length_append, Option.bind_some, resolve,
    findLatest_append_le a _ (Nat.le_refl _), bind_resolve_append hns _ _ _ _ (Nat.le_refl _)]
  rfl

theorem append_leaves_other_names (a : LArchive) (hns : NoSym a) (x : String × Member) (n' : String) (b : Blob)
    (hne : (x.1 == n') = false) (h : readL a n' = some b) : readL (a ++ [x]) n' = some b := by
  unfold readL at h ⊢
  rw [findLatest_append_last, hne, if_neg Bool.false_ne_true, bind_resolve_append hns _ _ _ _ (Nat.le_refl _),
    List.length_append]
  exact bind_resolve_mono a _ _ b h

theorem append_data_reads (a : LArchive) (n : String) (b : Blob) : readL (a ++ [(n, Member.data b)]) n = some b := by
  unfold readL
  rw [findLatest_append_last, if_pos (beq_self_eq_true n), List.length_append]
  rfl

theorem noSym_append {a : LArchive} (hns : NoSym a) (x : String × Member) (hx : ∀ t, x.2 ≠ Member.sym t) : NoSym (a ++ [x]) := by
  intro e he t
  rcases List.mem_append.1 he with h | h
  · exact hns e h t
  · rw [List.mem_singleton.1 h]; exact hx t

/-- what `packInodes` keeps true of its state after the files `done` -/
structure PackInv (content : Nat → Blob) (st : LArchive × List (Nat × String)) (done : List (String × Nat)) : Prop where
  noSym : NoSym st.1
  reads : ∀ f ∈ done, readL st.1 f.1 = some (content f.2)
  seen : ∀ s ∈ st.2, (s.2, s.1) ∈ done

theorem PackInv.append {content : Nat → Blob} {st : LArchive × List (Nat × String)} {done : List (String × Nat)}
    (inv : PackInv content st done) (f : String × Nat) (m : Member) (seen' : List (Nat × String))
    (hnew : ∀ g ∈ done, (f.1 == g.1) = false) (hm : ∀ t, m ≠ Member.sym t)
    (hread : readL (st.1 ++ [(f.1, m)]) f.1 = some (content f.2))
    (hseen : ∀ s ∈ seen', s ∈ st.2 ∨ s = (f.2, f.1)) :
    PackInv content (st.1 ++ [(f.1, m)], seen') (done ++ [f]) where
  noSym := noSym_append inv.noSym _ hm
  reads g hg := by
    rcases List.mem_append.1 hg with hg | hg
    · exact append_leaves_other_names _ inv.noSym _ _ _ (hnew g hg) (inv.reads g hg)
    · rw [List.mem_singleton.1 hg]; exact hread
  seen s hs := by
    rcases hseen s hs with h | h
    · exact List.mem_append_left _ (inv.seen s h)
    · rw [h]; exact List.mem_append_right _ List.mem_cons_self

theorem packStep_inv (content : Nat → Blob) (st : LArchive × List (Nat × String)) (done : List (String × Nat)) (f : String × Nat)
    (inv : PackInv content st done) (hnew : ∀ g ∈ done, (f.1 == g.1) = false) :
    PackInv content (packStep content st f) (done ++ [f]) := by
  unfold packStep
  cases hs : st.2.find? (fun s => s.1 == f.2) with
  | some s =>
    -- a later name of an inode: a hard link to the first name, which reads the inode's content
    have hino : s.1 = f.2 := by simpa using List.find?_some hs
    refine inv.append f _ _ hnew (fun _ => Member.noConfusion) ?_ fun s' hs' => Or.inl hs'
    rw [hard_link_reads_its_target _ inv.noSym, inv.reads _ (inv.seen s (List.mem_of_find?_eq_some hs)), hino]
  | none =>
    exact inv.append f _ ((f.2, f.1) :: st.2) hnew (fun _ => Member.noConfusion) (append_data_reads _ _ _)
      fun s' hs' => (List.mem_cons.1 hs').symm

theorem pack_fold_inv (content : Nat → Blob) (files : List (String × Nat)) (st : LArchive × List (Nat × String))
    (done : List (String × Nat)) (inv : PackInv content st done) (hn : ((done ++ files).map (·.1)).Nodup) :
    PackInv content (files.foldl (packStep content) st) (done ++ files) := by
  induction files generalizing st done with
  | nil => rwa [List.append_nil]
  | cons f rest ih =>
    have hnew : ∀ g ∈ done, (f.1 == g.1) = false := fun g hg => by
      rw [List.map_append, List.map_cons] at hn
      exact beq_eq_false_iff_ne.2
        ((List.nodup_append.1 hn).2.2 g.1 (List.mem_map_of_mem hg) f.1 List.mem_cons_self).symm
    rw [List.append_cons] at hn ⊢
    exact ih _ _ (packStep_inv content st done f inv hnew) hn

end Kapture.C12
