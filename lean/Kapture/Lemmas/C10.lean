/-
  Lemmas/C10.lean — the specifications the C10 theorems are stated against, what the two identifier counters hand out
  (`newIdsFrom_perm`), and the renamed merges: `renamedConcat` and `mergeRenamed` are one walk over the renamed entries
  (`foldlM_renamed`), and what is proved of a successful `renamedConcat` is read off that list.
-/
import Kapture.Model.C10

namespace Kapture.C10

/-- the sensor (resp. rig) mappings computed for a list of inputs -/
def sensorMaps (inputs : List InputIds) : List Mapping := (computeNewIds inputs 0 0).map (·.1)
def rigMaps (inputs : List InputIds) : List Mapping := (computeNewIds inputs 0 0).map (·.2)

/-- every fresh identifier handed out, over all inputs -/
def allNewIds (inputs : List InputIds) : List NewId :=
  (computeNewIds inputs 0 0).flatMap (fun m => m.1.map (·.2) ++ m.2.map (·.2))

/-- the disjoint union, consistently renamed: each input's entries, in input order, with the id component at `pos`
  renamed through that input's own mapping -/
def renamedConcat (pos : Nat) (tables : List (Option Table)) (mappings : List Mapping) : Except Err OutTable :=
  (tables.zip mappings).foldlM (fun acc tm =>
    match tm.1 with
    | none => Except.ok acc
    | some t => do
        let r ← t.mapM (fun kv => do
          let k ← renameAt pos tm.2 kv.1
          pure (k, kv.2))
        pure (acc ++ r)) []

def idsNodup (i : InputIds) : Prop :=
  (i.sensors.getD []).Nodup ∧ (i.rigs.getD []).Nodup

section generic
variable {κ ν α β ε : Type} [DecidableEq κ]

/-- `d[k] = v`, or `d.setdefault(k, v)` when `fw` -/
def put (fw : Bool) (acc : List (κ × ν)) (kv : κ × ν) : List (κ × ν) :=
  if fw && Dict.has kv.1 acc then acc else Dict.set kv.1 kv.2 acc

theorem foldl_put_of_nodup (fw : Bool) (out acc : List (κ × ν)) (h : ((acc ++ out).map (·.1)).Nodup) :
    out.foldl (put fw) acc = acc ++ out := by
  refine Dict.foldl_eq_append (fun acc kv hk => ?_) out acc h
  rw [put, Dict.has, hk, Option.isSome_none, Bool.and_false, if_neg Bool.false_ne_true, Dict.set_eq_append _ hk]

theorem map_eq_of_mapM_eq_ok (g : α → Except ε β) (l : List α) (out : List β) (h : l.mapM g = Except.ok out) :
    l.map g = out.map Except.ok := by
  induction l generalizing out with
  | nil => cases h; rfl
  | cons a l ih =>
    rw [List.mapM_cons] at h
    cases ha : g a with
    | error e => rw [ha] at h; cases h
    | ok b =>
      cases hl : l.mapM g with
      | error e => rw [ha, hl] at h; cases h
      | ok bs => rw [ha, hl] at h; cases h; rw [List.map_cons, ha, ih bs hl]; rfl

theorem foldlM_bind_pure (g : α → Except ε β) (h : ν → β → ν) (l : List α) (a : ν) :
    l.foldlM (fun acc x => do let b ← g x; pure (h acc b)) a = (l.mapM g).map (fun bs => bs.foldl h a) := by
  induction l generalizing a with
  | nil => rfl
  | cons x l ih =>
    rw [List.foldlM_cons, List.mapM_cons]
    cases g x with
    | error e => rfl
    | ok b =>
      show l.foldlM _ (h a b) = _
      rw [ih]
      cases l.mapM g <;> rfl

end generic

theorem computeNewIds_cons (i : InputIds) (rest : List InputIds) (so ro : Nat) :
    computeNewIds (i :: rest) so ro =
      (mkMapping NewId.sensor (i.sensors.getD []) so, mkMapping NewId.rig (i.rigs.getD []) ro) ::
        computeNewIds rest (so + (i.sensors.getD []).length) (ro + (i.rigs.getD []).length) := by
  obtain ⟨s, r⟩ := i
  cases s <;> cases r <;> rfl

theorem mkMapping_keys (mk : Nat → NewId) (ids : List String) (off : Nat) :
    (mkMapping mk ids off).map (·.1) = ids := by
  simp [mkMapping, List.map_map, Function.comp_def]

theorem mkMapping_vals (mk : Nat → NewId) (ids : List String) (off : Nat) :
    (mkMapping mk ids off).map (·.2) = (List.range' off ids.length).map mk := by
  rw [← Nat.add_zero off, ← List.map_add_range', ← List.zipIdx_map_snd, mkMapping]
  simp only [List.map_map, Nat.add_zero]
  rfl

theorem computeNewIds_keys (inputs : List InputIds) (so ro : Nat) :
    (computeNewIds inputs so ro).map (fun p => (p.1.map (·.1), p.2.map (·.1)))
      = inputs.map (fun i => (i.sensors.getD [], i.rigs.getD [])) := by
  induction inputs generalizing so ro with
  | nil => rfl
  | cons i rest ih => rw [computeNewIds_cons, List.map_cons, ih, mkMapping_keys, mkMapping_keys, List.map_cons]

def newIdsFrom (inputs : List InputIds) (so ro : Nat) : List NewId :=
  (computeNewIds inputs so ro).flatMap (fun m => m.1.map (·.2) ++ m.2.map (·.2))

theorem allNewIds_eq (inputs : List InputIds) : allNewIds inputs = newIdsFrom inputs 0 0 := rfl

theorem newIdsFrom_cons (i : InputIds) (rest : List InputIds) (so ro : Nat) :
    newIdsFrom (i :: rest) so ro =
      (List.range' so (i.sensors.getD []).length).map NewId.sensor ++ (List.range' ro (i.rigs.getD []).length).map NewId.rig ++
        newIdsFrom rest (so + (i.sensors.getD []).length) (ro + (i.rigs.getD []).length) := by
  rw [newIdsFrom, computeNewIds_cons, List.flatMap_cons, mkMapping_vals, mkMapping_vals]
  rfl

theorem newIdsFrom_perm (inputs : List InputIds) (so ro : Nat) :
    (newIdsFrom inputs so ro).Perm
      ((List.range' so (inputs.map (fun i => (i.sensors.getD []).length)).sum).map NewId.sensor ++
        (List.range' ro (inputs.map (fun i => (i.rigs.getD []).length)).sum).map NewId.rig) := by
  induction inputs generalizing so ro with
  | nil => exact List.Perm.refl _
  | cons i rest ih =>
    rw [newIdsFrom_cons, List.map_cons, List.map_cons, List.sum_cons, List.sum_cons, ← List.range'_append_1,
      ← List.range'_append_1, List.map_append, List.map_append]
    -- the rig numbers of this input move behind the sensor numbers of the rest
    refine ((ih _ _).append_left _).trans ?_
    rw [List.append_assoc, List.append_assoc]
    exact (List.perm_append_comm_assoc _ _ _).append_left _

def renameKV (pos : Nat) (m : Mapping) (kv : Key × String) : Except Err (OutKey × String) := do
  let k ← renameAt pos m kv.1
  pure (k, kv.2)

/-- every entry of every table, in input order, renamed through the mapping of its own input -/
def renamedEntries (pos : Nat) (tms : List (Option Table × Mapping)) : List (Except Err (OutKey × String)) :=
  tms.flatMap (fun tm => (tm.1.getD []).map (renameKV pos tm.2))

/-- both loops walk the renamed entries and stop at the first that fails; they differ in how a renamed table `r` joins the
  accumulator `s`, which is `h s r` -/
theorem foldlM_renamed {σ : Type} (pos : Nat) (h : σ → OutTable → σ) (h_nil : ∀ s, h s [] = s)
    (h_app : ∀ s r₁ r₂, h (h s r₁) r₂ = h s (r₁ ++ r₂)) {step : σ → Option Table × Mapping → Except Err σ}
    (hnone : ∀ s m, step s (none, m) = Except.ok s)
    (hsome : ∀ s t m, step s (some t, m) = (t.mapM (renameKV pos m)).map (h s))
    (tms : List (Option Table × Mapping)) (s : σ) :
    tms.foldlM step s = ((renamedEntries pos tms).mapM id).map (h s) := by
  induction tms generalizing s with
  | nil => exact congrArg Except.ok (h_nil s).symm
  | cons tm tl ih =>
    obtain ⟨o, m⟩ := tm
    rw [List.foldlM_cons, show renamedEntries pos ((o, m) :: tl) =
      (o.getD []).map (renameKV pos m) ++ renamedEntries pos tl from rfl, List.mapM_append, List.mapM_map]
    cases o with
    | none =>
      rw [hnone]
      show tl.foldlM step s = _
      rw [ih]
      cases (renamedEntries pos tl).mapM id <;> rfl
    | some t =>
      rw [hsome]
      show _ = (t.mapM (renameKV pos m) >>= fun r₁ =>
        (renamedEntries pos tl).mapM id >>= fun r₂ => pure (r₁ ++ r₂)).map (h s)
      cases t.mapM (renameKV pos m) with
      | error e => rfl
      | ok r₁ =>
        show tl.foldlM step (h s r₁) = _
        rw [ih]
        cases (renamedEntries pos tl).mapM id with
        | error e => rfl
        | ok r₂ => exact congrArg Except.ok (h_app s r₁ r₂)

theorem renamedConcat_eq_mapM (pos : Nat) (tables : List (Option Table)) (mappings : List Mapping) :
    renamedConcat pos tables mappings = (renamedEntries pos (tables.zip mappings)).mapM id := by
  refine (foldlM_renamed pos (· ++ ·) List.append_nil List.append_assoc (fun _ _ => rfl) (fun _ _ _ => rfl) _ []).trans ?_
  cases (renamedEntries pos (tables.zip mappings)).mapM id <;> rfl

theorem renamedEntries_of_ok {pos : Nat} {tables : List (Option Table)} {mappings : List Mapping} {out : OutTable}
    (h : renamedConcat pos tables mappings = Except.ok out) :
    renamedEntries pos (tables.zip mappings) = out.map Except.ok := by
  rw [renamedConcat_eq_mapM] at h
  simpa using map_eq_of_mapM_eq_ok id _ _ h

theorem mergeRenamed_eq_build (pos : Nat) (fw : Bool) (tables : List (Option Table)) (mappings : List Mapping) :
    mergeRenamed pos fw tables mappings =
      (renamedConcat pos tables mappings).map (fun out => out.foldl (put fw) []) := by
  rw [renamedConcat_eq_mapM]
  refine foldlM_renamed pos (fun s r => r.foldl (put fw) s) (fun _ => rfl) (fun _ _ _ => (List.foldl_append ..).symm)
    (fun _ _ => rfl) (fun acc t m => ?_) _ []
  -- the inner loop renames an entry, then `put`s it
  rw [← foldlM_bind_pure]
  show t.foldlM _ acc = _
  congr 1
  funext acc kv
  unfold renameKV put
  cases renameAt pos m kv.1 with
  | error e => rfl
  | ok k => exact (apply_ite pure _ _ _).symm

theorem renameAt_ok {pos : Nat} {m : Mapping} {k : Key} {k' : OutKey} (h : renameAt pos m k = Except.ok k') :
    ∃ pre id post n, k = pre ++ id :: post ∧ pre.length = pos ∧ Dict.get? id m = some n ∧
      k' = pre.map Comp.str ++ Comp.new n :: post.map Comp.str := by
  unfold renameAt at h
  split at h
  · cases h
  · next id hid =>
    split at h
    · cases h
    · next n hn =>
      cases h
      obtain ⟨hlt, rfl⟩ := List.getElem?_eq_some_iff.mp hid
      refine ⟨k.take pos, k[pos], k.drop (pos + 1), n, ?_, List.length_take_of_le (Nat.le_of_lt hlt), hn, ?_⟩
      · rw [← List.drop_eq_getElem_cons hlt, List.take_append_drop]
      · rw [List.append_assoc, List.singleton_append]

theorem renameKV_ok {pos : Nat} {m : Mapping} {kv : Key × String} {x : OutKey × String}
    (h : renameKV pos m kv = Except.ok x) : renameAt pos m kv.1 = Except.ok x.1 := by
  unfold renameKV at h
  cases hk : renameAt pos m kv.1 with
  | error e => rw [hk] at h; cases h
  | ok k => rw [hk] at h; cases h; rfl

theorem renameAt_comp {pos : Nat} {m : Mapping} {k : Key} {k' : OutKey} (h : renameAt pos m k = Except.ok k') :
    ∃ n, k'[pos]? = some (Comp.new n) ∧ n ∈ m.map (·.2) := by
  obtain ⟨pre, id, post, n, rfl, rfl, hn, rfl⟩ := renameAt_ok h
  refine ⟨n, ?_, List.mem_map.mpr ⟨(id, n), Dict.mem_of_get? hn, rfl⟩⟩
  rw [List.getElem?_append_right (by rw [List.length_map]; exact Nat.le_refl _), List.length_map, Nat.sub_self]
  rfl

theorem renameAt_inj {pos : Nat} {m : Mapping} {k1 k2 : Key} {k' : OutKey} (hv : (m.map (·.2)).Nodup)
    (h1 : renameAt pos m k1 = Except.ok k') (h2 : renameAt pos m k2 = Except.ok k') : k1 = k2 := by
  obtain ⟨pre1, id1, post1, n1, rfl, hl, hn1, rfl⟩ := renameAt_ok h1
  obtain ⟨pre2, id2, post2, n2, rfl, rfl, hn2, e⟩ := renameAt_ok h2
  obtain ⟨hpre, hpost⟩ := List.append_inj e (by rw [List.length_map, List.length_map, hl])
  rw [List.cons.injEq, Comp.new.injEq] at hpost
  obtain ⟨rfl, hpost⟩ := hpost
  have hstr : ∀ a b, Comp.str a = Comp.str b → a = b := fun a b h => Comp.str.inj h
  rw [(List.map_inj_right hstr).mp hpre, (List.map_inj_right hstr).mp hpost,
    show id1 = id2 from congrArg Prod.fst
      (Dict.eq_of_nodup_map hv (Dict.mem_of_get? hn1) (Dict.mem_of_get? hn2) rfl)]

theorem map_snd_zip_sublist {α β : Type} (l1 : List α) (l2 : List β) : ((l1.zip l2).map Prod.snd).Sublist l2 := by
  rw [List.zip_eq_zip_take_min, List.map_snd_zip (by simp)]
  exact List.take_sublist _ _

/-- inside one table renaming is injective; entries of different tables differ at `pos` -/
theorem renamedEntries_pairwise (pos : Nat) (tables : List (Option Table)) (mappings : List Mapping)
    (hk : ∀ t, some t ∈ tables → (t.map (·.1)).Nodup) (hm : (mappings.flatMap (fun m => m.map (·.2))).Nodup) :
    (renamedEntries pos (tables.zip mappings)).Pairwise
      (fun a b => ∀ x y, a = Except.ok x → b = Except.ok y → x.1 ≠ y.1) := by
  obtain ⟨hin, hacross⟩ := List.pairwise_flatMap.mp hm
  refine List.pairwise_flatMap.mpr ⟨?_, ?_⟩
  · rintro ⟨o, m⟩ hmem
    cases o with
    | none => exact List.Pairwise.nil
    | some t =>
      refine List.pairwise_map.mpr ((List.pairwise_map.mp (hk t (List.of_mem_zip hmem).1)).imp ?_)
      intro a b hab x y hx hy hxy
      exact hab (renameAt_inj (hin m (List.of_mem_zip hmem).2) (renameKV_ok hx) (hxy ▸ renameKV_ok hy))
  · refine (List.pairwise_map.mp (hacross.sublist (map_snd_zip_sublist tables mappings))).imp ?_
    intro tm1 tm2 hdis a ha b hb x y hx hy hxy
    obtain ⟨kv1, -, rfl⟩ := List.mem_map.mp ha
    obtain ⟨kv2, -, rfl⟩ := List.mem_map.mp hb
    obtain ⟨n1, hc1, hn1⟩ := renameAt_comp (renameKV_ok hx)
    obtain ⟨n2, hc2, hn2⟩ := renameAt_comp (renameKV_ok hy)
    rw [hxy, hc2, Option.some.injEq, Comp.new.injEq] at hc1
    exact hdis n1 hn1 n2 hn2 hc1.symm

end Kapture.C10
