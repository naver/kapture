/-
  Lemmas/C08.lean — what the comparisons of Model/C08.lean say of two present parts (tables: the same keys and close
  values position by position; collections: the same names, configurations and members), absence being handled once
  for both kinds of part.
-/
import Kapture.Model.C08
import Kapture.Base.Dict

namespace Kapture.C08

/-- two lists are equal as sets -/
def SameMembers (a b : List String) : Prop := ∀ x, x ∈ a ↔ x ∈ b

theorem SameMembers.symm {a b : List String} (h : SameMembers a b) : SameMembers b a :=
  fun x => (h x).symm

section optional
variable {α : Type} (eq : Option α → Option α → Bool)
  (hns : ∀ y, eq none (some y) = false) (hsn : ∀ x, eq (some x) none = false)
include hns hsn

theorem optional_iff {P : α → α → Prop} (a b : Option α) (hnn : eq none none = true)
    (hss : ∀ x y, a = some x → b = some y → (eq (some x) (some y) = true ↔ P x y)) :
    eq a b = true ↔ (a = none ∧ b = none) ∨ ∃ x y, a = some x ∧ b = some y ∧ P x y := by
  cases a <;> cases b <;> simp [*]

theorem optional_symm {Q : α → Prop} (a b : Option α) (ha : ∀ x, a = some x → Q x) (hb : ∀ y, b = some y → Q y)
    (imp : ∀ x y, Q x → Q y → eq (some x) (some y) = true → eq (some y) (some x) = true) : eq a b = eq b a := by
  cases a with
  | none =>
    cases b with
    | none => rfl
    | some y => rw [hns, hsn]
  | some x =>
    cases b with
    | none => rw [hns, hsn]
    | some y => exact Bool.eq_iff_iff.mpr ⟨imp x y (ha x rfl) (hb y rfl), imp y x (hb y rfl) (ha x rfl)⟩

end optional

theorem equalTable_some_none (close : String → String → Bool) (x : Table) :
    equalTable close (some x) none = false := rfl

theorem equalTable_none_some (close : String → String → Bool) (x : Table) :
    equalTable close none (some x) = false := rfl

theorem equalTable_none_none (close : String → String → Bool) :
    equalTable close none none = true := rfl

theorem equalTable_cons_cons (close : String → String → Bool) (p q : Key × String) (x y : Table) :
    equalTable close (some (p :: x)) (some (q :: y)) = true ↔
      (p.1 = q.1 ∧ close p.2 q.2 = true) ∧ equalTable close (some x) (some y) = true := by
  simp only [equalTable, List.length_cons, List.zip_cons_cons, List.all_cons, Bool.and_eq_true, beq_iff_eq,
    Nat.add_right_cancel_iff]
  exact and_left_comm

theorem equalTable_some_iff (close : String → String → Bool) (x y : Table) :
    equalTable close (some x) (some y) = true ↔
      x.map (·.1) = y.map (·.1) ∧
        ∀ (i : Nat) (p q : Key × String), x[i]? = some p → y[i]? = some q → close p.2 q.2 = true := by
  induction x generalizing y with
  | nil =>
    cases y with
    | nil => exact ⟨fun _ => ⟨rfl, fun i p q h => by cases h⟩, fun _ => rfl⟩
    | cons q y => exact ⟨fun h => (by cases h), fun h => (by cases h.1)⟩
  | cons p x ih =>
    cases y with
    | nil => exact ⟨fun h => (by cases h), fun h => (by cases h.1)⟩
    | cons q y =>
      -- the step: `∀ i` is split into `i = 0` (the heads) and `i + 1` (the tails, where `ih` applies)
      rw [equalTable_cons_cons, ← Nat.and_forall_add_one, ih y]
      simp only [List.map_cons, List.cons.injEq, List.getElem?_cons_zero, List.getElem?_cons_succ, Option.some.injEq]
      exact ⟨fun ⟨⟨a, b⟩, c, d⟩ => ⟨⟨a, c⟩, fun _ _ hp hq => hp ▸ hq ▸ b, d⟩,
        fun ⟨⟨a, c⟩, b, d⟩ => ⟨⟨a, b _ _ rfl rfl⟩, c, d⟩⟩

theorem equalTable_some_imp_symm (close : String → String → Bool) (hs : ∀ v w, close v w = close w v) (x y : Table)
    (h : equalTable close (some x) (some y) = true) : equalTable close (some y) (some x) = true := by
  rw [equalTable_some_iff] at h ⊢
  exact ⟨h.1.symm, fun i p q hp hq => hs q.2 p.2 ▸ h.2 i q p hq hp⟩

theorem equalTable_length_ne (close : String → String → Bool) (x y : Table) (h : x.length ≠ y.length) :
    equalTable close (some x) (some y) = false := by
  have hl : (x.length == y.length) = false := by simpa using h
  show (x.length == y.length && _) = false
  rw [hl, Bool.false_and]

theorem equalSets_symmdiff_iff (a b : List String) :
    equalSets "symmetric_difference" a b = true ↔ SameMembers a b := by
  simp only [equalSets, beq_self_eq_true, if_true, Bool.and_eq_true, List.all_eq_true, List.contains_iff_mem,
    SameMembers, iff_iff_implies_and_implies, forall_and]

theorem lookupColl_eq_get? (c : Coll) (ty : String) : lookupColl c ty = Dict.get? ty c :=
  (Dict.get?_eq_find? ty c).symm

theorem equalColl_some_iff (x y : Coll) (hx : (x.map (·.1)).Nodup) :
    equalColl "symmetric_difference" (some x) (some y) = true ↔
      SameMembers (x.map (·.1)) (y.map (·.1)) ∧
        ∀ ty cfg ms, lookupColl x ty = some (cfg, ms) →
          ∃ ms', lookupColl y ty = some (cfg, ms') ∧ SameMembers ms ms' := by
  have entry : ∀ e : String × String × List String, (match lookupColl y e.1 with
      | none => false
      | some f => e.2.1 == f.1 && equalSets "symmetric_difference" e.2.2 f.2) = true ↔
      ∃ ms', lookupColl y e.1 = some (e.2.1, ms') ∧ SameMembers e.2.2 ms' := by
    intro e
    cases lookupColl y e.1 with
    | none => exact ⟨fun h => (by cases h), fun ⟨_, h, _⟩ => (by cases h)⟩
    | some f =>
      show (e.2.1 == f.1 && _) = true ↔ _
      rw [Bool.and_eq_true, beq_iff_eq, equalSets_symmdiff_iff]
      exact ⟨fun ⟨hc, hm⟩ => ⟨f.2, by rw [hc], hm⟩, fun ⟨ms', hf, hm⟩ => by cases hf; exact ⟨rfl, hm⟩⟩
  simp only [equalColl, Bool.and_eq_true, equalSets_symmdiff_iff, List.all_eq_true, lookupColl_eq_get? x,
    Dict.get?_eq_some_iff hx]
  exact and_congr_right fun _ =>
    ⟨fun h ty cfg ms he => (entry (ty, cfg, ms)).mp (h _ he), fun h e he => (entry e).mpr (h _ _ _ he)⟩

theorem equalColl_some_imp_symm (x y : Coll) (hx : (x.map (·.1)).Nodup) (hy : (y.map (·.1)).Nodup)
    (h : equalColl "symmetric_difference" (some x) (some y) = true) :
    equalColl "symmetric_difference" (some y) (some x) = true := by
  rw [equalColl_some_iff x y hx] at h
  rw [equalColl_some_iff y x hy]
  obtain ⟨hn, H⟩ := h
  refine ⟨hn.symm, fun ty cfg ms hl => ?_⟩
  -- `ty` names a type of `y`, so of `x`; the entry of `x` is matched by one of `y`, which is `(cfg, ms)`
  have hmem : ty ∈ Dict.keys x := (hn ty).mpr (Dict.mem_keys_of_get? ((lookupColl_eq_get? y ty).symm.trans hl))
  obtain ⟨f, hf⟩ := Option.isSome_iff_exists.mp ((Dict.mem_keys_iff ty x).mp hmem)
  rw [← lookupColl_eq_get?] at hf
  obtain ⟨ms', hy', hm⟩ := H ty f.1 f.2 hf
  cases hl.symm.trans hy'
  exact ⟨f.2, hf, hm.symm⟩

/-- membership in a list literal is a disjunction of equations, so both directions are propositional and no string is
  ever compared (evaluating `String` equality is what makes `decide` dear here) -/
theorem mem_allParts_iff (p : String) : p ∈ allParts ↔ p ∈ Gen.ComparedParts.comparedParts ∨ p = "records_depth" := by
  simp only [Gen.ComparedParts.comparedParts, allParts, List.mem_cons, List.not_mem_nil, or_false]
  grind

end Kapture.C08
