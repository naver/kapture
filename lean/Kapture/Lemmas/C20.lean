/-
  Lemmas/C20.lean — the specification of C20 and its lemmas.  Both routes' data moves are folds of a step over the list of
  moves; `foldl_writes` says once what such a fold leaves at every destination when the steps do not interfere pairwise.
-/
import Kapture.Model.C20

namespace Kapture.C20

/-- the moves of one feature folder: every data file `dir/rel` goes to `dir/ty/rel` -/
def movesOf (dir ty : String) (rels : List String) : List Move :=
  rels.map (fun r => ⟨dir ++ "/" ++ r, dir ++ "/" ++ ty ++ "/" ++ r⟩)

/-- what a folder must look like afterwards, whatever the route: each file under its type, with its own content -/
def copiedFolder (t : Tree) (moves : List Move) : Tree :=
  moves.foldl (fun o m => match Dict.get? m.src t with
    | some c => Dict.set m.dst c o
    | none => o) []

/-- moves listed deepest source first -/
def DeepestFirst (moves : List Move) : Prop :=
  moves.Pairwise (fun a b => count '/' a.src ≥ count '/' b.src)

/-- every destination is exactly one level deeper than its source, sources are distinct, destinations are distinct -/
def WellFormedMoves (moves : List Move) : Prop :=
  (∀ m ∈ moves, count '/' m.dst = count '/' m.src + 1) ∧ (moves.map (·.src)).Nodup ∧ (moves.map (·.dst)).Nodup

theorem moveFile_nodup (t : Tree) (m : Move) (hk : (Dict.keys t).Nodup) : (Dict.keys (moveFile t m)).Nodup := by
  unfold moveFile
  split
  · exact Dict.nodup_set _ _ _ (Dict.nodup_erase _ _ hk)
  · exact hk

theorem get?_moveFile_other (t : Tree) (m : Move) (p : String) (h1 : p ≠ m.src) (h2 : p ≠ m.dst) :
    Dict.get? p (moveFile t m) = Dict.get? p t := by
  unfold moveFile
  split
  · rw [Dict.get?_set_ne _ _ _ _ h2, Dict.get?_erase_ne _ _ _ h1]
  · rfl

theorem get?_moveFile_dst (t : Tree) (m : Move) (c : Content) (h : Dict.get? m.src t = some c) :
    Dict.get? m.dst (moveFile t m) = some c := by
  unfold moveFile
  rw [h]
  exact Dict.get?_set_self _ _ _

theorem foldl_moveFile_nodup (moves : List Move) (t : Tree) (hk : (Dict.keys t).Nodup) :
    (Dict.keys (moves.foldl moveFile t)).Nodup :=
  List.foldlRecOn (motive := fun t => (Dict.keys t).Nodup) moves _ hk fun t ht m _ => moveFile_nodup t m ht

theorem foldl_untouched {step : Tree → Move → Tree} {p : String} (moves : List Move) (t : Tree)
    (h : ∀ m ∈ moves, ∀ s, Dict.get? p (step s m) = Dict.get? p s) :
    Dict.get? p (moves.foldl step t) = Dict.get? p t := by
  induction moves generalizing t with
  | nil => rfl
  | cons m tl ih => rw [List.foldl_cons, ih _ fun b hb => h b (List.mem_cons_of_mem _ hb), h m List.mem_cons_self]

/-- `rd s m` is what the move `m` carries in state `s` -/
theorem foldl_writes {step : Tree → Move → Tree} {rd : Tree → Move → Option Content} (moves : List Move)
    (hw : ∀ m s, (rd s m).isSome → Dict.get? m.dst (step s m) = rd s m)
    (hpw : moves.Pairwise fun a b => ∀ s, rd (step s a) b = rd s b ∧ Dict.get? a.dst (step s b) = Dict.get? a.dst s)
    (t : Tree) (hs : ∀ m ∈ moves, (rd t m).isSome) (m : Move) (hm : m ∈ moves) :
    Dict.get? m.dst (moves.foldl step t) = rd t m := by
  induction moves generalizing t with
  | nil => cases hm
  | cons h tl ih =>
    rw [List.pairwise_cons] at hpw
    rw [List.foldl_cons]
    rcases List.mem_cons.mp hm with rfl | hmt
    · rw [foldl_untouched tl _ fun b hb s => (hpw.1 b hb s).2]
      exact hw m t (hs m List.mem_cons_self)
    · rw [ih hpw.2 _ (fun b hb => (hpw.1 b hb t).1 ▸ hs b (List.mem_cons_of_mem _ hb)) hmt]
      exact (hpw.1 m hmt t).1

theorem copiedFolder_content (t : Tree) (moves : List Move)
    (hdst : (moves.map (·.dst)).Nodup) (hs : ∀ m ∈ moves, (Dict.get? m.src t).isSome)
    (m : Move) (hm : m ∈ moves) :
    Dict.get? m.dst (copiedFolder t moves) = Dict.get? m.src t := by
  unfold copiedFolder
  refine foldl_writes (rd := fun _ m => Dict.get? m.src t) moves (fun m o h => ?_) ?_ [] hs m hm
  · obtain ⟨c, hc⟩ := Option.isSome_iff_exists.mp h
    simp only [hc]
    exact Dict.get?_set_self _ _ _
  · refine (List.pairwise_map.mp hdst).imp fun {a b} hab o => ⟨rfl, ?_⟩
    split
    · exact Dict.get?_set_ne _ _ _ _ hab
    · rfl

theorem insertByDepth_perm (m : String) (l : List String) : (insertByDepth m l).Perm (m :: l) := by
  fun_induction insertByDepth m l with
  | case1 | case2 => exact .refl _
  | case3 x xs _ ih => exact (ih.cons x).trans (.swap m x xs)

theorem insertByDepth_sorted (m : String) (l : List String)
    (hl : l.Pairwise (fun a b => count '/' a ≥ count '/' b)) :
    (insertByDepth m l).Pairwise (fun a b => count '/' a ≥ count '/' b) := by
  fun_induction insertByDepth m l with
  | case1 => simp
  | case2 x xs hge =>
    exact List.pairwise_cons.mpr ⟨fun y hy => (List.mem_cons.mp hy).elim (· ▸ hge) fun hy =>
      Nat.le_trans (List.rel_of_pairwise_cons hl hy) hge, hl⟩
  | case3 x xs hlt ih =>
    rw [List.pairwise_cons] at hl ⊢
    refine ⟨fun y hy => ?_, ih hl.2⟩
    rcases List.mem_cons.mp ((insertByDepth_perm m xs).mem_iff.mp hy) with rfl | hy
    · omega
    · exact hl.1 y hy

/-- the pairs of point `i` in a list of entries, in file order -/
def pairsOf (i : Int) (es : List (Int × List String)) : List String := (es.filter (fun e => e.1 == i)).flatMap (·.2)

theorem pairsOf_cons (i : Int) (e : Int × List String) (rest : List (Int × List String)) :
    pairsOf i (e :: rest) = (if e.1 == i then e.2 else []) ++ pairsOf i rest := by
  unfold pairsOf
  by_cases h : e.1 == i <;> simp [h]

theorem pairsOf_of_not_any (i : Int) (es : List (Int × List String)) (h : es.any (fun e => e.1 == i) = false) :
    pairsOf i es = [] := by
  rw [pairsOf, List.filter_eq_nil_iff.mpr fun e he => Bool.not_eq_true _ ▸ List.any_eq_false.mp h e he]
  rfl

theorem group_step_get (acc : List (Int × List String)) (e : Int × List String) (i : Int) :
    Dict.get? i (groupStep acc e) =
    if e.1 == i then some (((Dict.get? i acc).getD []) ++ e.2) else Dict.get? i acc := by
  unfold groupStep
  by_cases h : e.1 = i
  · subst h
    rw [if_pos (beq_self_eq_true _)]
    cases Dict.get? e.1 acc <;> exact Dict.get?_set_self _ _ _
  · rw [if_neg (mt beq_iff_eq.mp h)]
    cases Dict.get? e.1 acc <;> exact Dict.get?_set_ne _ _ _ _ (Ne.symm h)

theorem group_fold_get (es : List (Int × List String)) : ∀ (acc : List (Int × List String)) (i : Int),
    Dict.get? i (es.foldl groupStep acc) =
    if (es.any (fun e => e.1 == i)) then some (((Dict.get? i acc).getD []) ++ pairsOf i es) else Dict.get? i acc := by
  induction es with
  | nil => intro acc i; rfl
  | cons e rest ih =>
    intro acc i
    rw [List.foldl_cons, ih, group_step_get, pairsOf_cons, List.any_cons]
    cases e.1 == i
    · rfl
    · cases hr : rest.any (fun x => x.1 == i) <;> simp [pairsOf_of_not_any, hr]

theorem insertGroup_perm (g : Int × List String) (l : List (Int × List String)) : (insertGroup g l).Perm (g :: l) := by
  fun_induction insertGroup g l with
  | case1 | case2 => exact .refl _
  | case3 h t _ ih => exact (ih.cons h).trans (.swap g h t)

end Kapture.C20
