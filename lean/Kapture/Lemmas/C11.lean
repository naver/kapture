/-
  Lemmas/C11.lean — the specifications the C11 theorems are stated against, the expected observations `shiftedFrom` with
  their characterisation (`mem_shiftedFrom`), and the invariant of the merging loop (`fold_spec`).
-/
import Kapture.Model.C11

namespace Kapture.C11

/-- the clouds of the inputs that have one, in input order -/
def clouds (rs : List Recon) : List (List Row) := rs.filterMap (·.points)

/-- number of points merged before input `n` -/
def offsetBefore (rs : List Recon) (n : Nat) : Nat := ((clouds (rs.take n)).map List.length).sum

/-- all inputs that have a cloud agree on its width -/
def sameWidth (rs : List Recon) : Prop :=
  ∀ r₁ ∈ rs, ∀ r₂ ∈ rs, r₁.points.isSome = true → r₂.points.isSome = true → r₁.cols = r₂.cols

/-- the expected merged observations when `off` points were merged before `rs` -/
def shiftedFrom : Nat → List Recon → List Obs
  | _, [] => []
  | off, r :: rs =>
    (if r.points.isSome then (r.obs.getD []).map (fun o => (o.1 + off, o.2)) else []) ++
      shiftedFrom (off + (r.points.getD []).length) rs

/-! An input without points counts as one with the empty cloud (so in `shiftedFrom`): the equations below hold for both kinds
  of input. -/

theorem flatten_clouds_cons (r : Recon) (rs : List Recon) :
    (clouds (r :: rs)).flatten = r.points.getD [] ++ (clouds rs).flatten := by
  cases h : r.points <;> simp [clouds, h]

theorem offsetBefore_zero (rs : List Recon) : offsetBefore rs 0 = 0 := rfl

theorem offsetBefore_succ (r : Recon) (rs : List Recon) (n : Nat) :
    offsetBefore (r :: rs) (n + 1) = (r.points.getD []).length + offsetBefore rs n := by
  cases h : r.points <;> simp [offsetBefore, clouds, h]

theorem flatten_getElem?_offset (rs : List Recon) (n : Nat) (r : Recon) (p : List Row)
    (hr : rs[n]? = some r) (hp : r.points = some p) (i : Nat) (hi : i < p.length) :
    (clouds rs).flatten[i + offsetBefore rs n]? = p[i]? := by
  induction rs generalizing n with
  | nil => cases hr
  | cons r0 rs ih =>
    rw [flatten_clouds_cons]
    cases n with
    | zero =>
      cases hr
      rw [hp, offsetBefore_zero]
      exact List.getElem?_append_left hi
    | succ n =>
      rw [offsetBefore_succ, Nat.add_left_comm, List.getElem?_append_right (Nat.le_add_right _ _), Nat.add_sub_cancel_left]
      exact ih n hr

theorem mem_shiftedFrom (rs : List Recon) (off : Nat) (x : Obs) :
    x ∈ shiftedFrom off rs ↔
      ∃ n r p os o', rs[n]? = some r ∧ r.points = some p ∧ r.obs = some os ∧ o' ∈ os ∧
        x = (o'.1 + (off + offsetBefore rs n), o'.2) := by
  induction rs generalizing off with
  | nil => simp [shiftedFrom]
  | cons r0 rs ih =>
    rw [shiftedFrom, List.mem_append, ih]
    -- the step: `∃ n` is split into `n = 0` (the first reconstruction) and `n + 1` (the others, where `ih` applies)
    refine Iff.trans (or_congr ?_ ?_) Nat.or_exists_add_one
    · constructor
      · intro hx
        cases hp : r0.points with
        | none => rw [hp] at hx; cases hx
        | some p =>
          rw [hp] at hx
          obtain ⟨o', ho', rfl⟩ := List.mem_map.mp hx
          cases ho : r0.obs with
          | none => rw [ho] at ho'; cases ho'
          | some os => rw [ho] at ho'; exact ⟨r0, p, os, o', rfl, hp, ho, ho', rfl⟩
      · rintro ⟨r, p, os, o', hr, hp, ho, hm, rfl⟩
        cases hr
        rw [hp, ho]
        exact List.mem_map.mpr ⟨o', hm, rfl⟩
    · simp only [List.getElem?_cons_succ, offsetBefore_succ, Nat.add_assoc]

theorem length_shiftedFrom (rs : List Recon) (off : Nat) :
    (shiftedFrom off rs).length =
      ((rs.filter (fun r => r.points.isSome)).map (fun r => (r.obs.getD []).length)).sum := by
  induction rs generalizing off with
  | nil => rfl
  | cons r0 rs ih => cases hp : r0.points <;> simp [shiftedFrom, hp, ih]

theorem stepRecon_none {a : Acc} {r : Recon} (h : r.points = none) : stepRecon a r = Except.ok a := by
  simp [stepRecon, h]

/-- a step on an input with points, for an accumulator whose offset is its number of points -/
theorem stepRecon_some {a : Acc} {r : Recon} {p : List Row} (h : r.points = some p)
    (ha : a.started = false → a.points = []) :
    stepRecon a r =
      if a.started && a.cols != r.cols then Except.error "ValueError" else
        Except.ok { started := true, cols := r.cols, points := a.points ++ p,
                    obs := a.obs ++ (r.obs.getD []).map (fun o => (o.1 + a.points.length, o.2)) } := by
  have hoff : (if a.started then a.points.length else 0) = a.points.length := by
    cases hs : a.started
    · simp [ha hs]
    · rfl
  unfold stepRecon
  cases ho : r.obs <;> simp [h, hoff]

theorem fold_spec (rs : List Recon) (a a' : Acc) (ha : a.started = false → a.points = [])
    (hf : rs.foldlM stepRecon a = Except.ok a') :
    a'.points = a.points ++ (clouds rs).flatten ∧ a'.obs = a.obs ++ shiftedFrom a.points.length rs ∧
    (∀ r ∈ rs, r.points.isSome = true → r.cols = a'.cols) ∧ (a.started = true → a'.cols = a.cols) ∧
    (clouds rs = [] → a' = a) := by
  induction rs generalizing a with
  | nil => cases hf; simp [clouds, shiftedFrom]
  | cons r rs ih =>
    rw [List.foldlM_cons] at hf
    cases hp : r.points with
    | none =>
      rw [stepRecon_none hp] at hf
      simpa [flatten_clouds_cons, shiftedFrom, clouds, hp] using ih a ha hf
    | some p =>
      rw [stepRecon_some hp ha] at hf
      split at hf
      · cases hf
      · next hc =>
        obtain ⟨h1, h2, h3, h4, -⟩ := ih _ (fun h => by cases h) hf
        simp only [Bool.and_eq_true, bne_iff_ne, not_and, Decidable.not_not] at hc
        simp only [forall_const] at h4
        refine ⟨?_, ?_, ?_, fun hs => h4.trans (hc hs).symm, by simp [clouds, hp]⟩
        · simp [h1, flatten_clouds_cons, hp]
        · simp [h2, shiftedFrom, hp]
        · intro r' hr' hs'
          rcases List.mem_cons.1 hr' with rfl | hr'
          · exact h4.symm
          · exact h3 r' hr' hs'

theorem fold_succeeds (rs : List Recon) (a : Acc) (ha : a.started = false → a.points = []) (hw : sameWidth rs)
    (hc : a.started = true → ∀ r ∈ rs, r.points.isSome = true → a.cols = r.cols) :
    ∃ a', rs.foldlM stepRecon a = Except.ok a' := by
  induction rs generalizing a with
  | nil => exact ⟨a, rfl⟩
  | cons r rs ih =>
    have hw' : sameWidth rs := fun r₁ h₁ r₂ h₂ =>
      hw r₁ (List.mem_cons_of_mem _ h₁) r₂ (List.mem_cons_of_mem _ h₂)
    rw [List.foldlM_cons]
    cases hp : r.points with
    | none =>
      rw [stepRecon_none hp]
      exact ih a ha hw' (fun hst r' hr' hs => hc hst r' (List.mem_cons_of_mem _ hr') hs)
    | some p =>
      have hrs : r.points.isSome = true := by rw [hp]; rfl
      rw [stepRecon_some hp ha, if_neg (by simpa using fun hst => hc hst r List.mem_cons_self hrs)]
      exact ih _ (fun h => by cases h) hw'
        (fun _ r' hr' hs' => hw r List.mem_cons_self r' (List.mem_cons_of_mem _ hr') hrs hs')

theorem merge_spec {rs : List Recon} {c : Nat} {pts : List Row} {obs : List Obs}
    (h : mergePointsObs rs = Except.ok (c, pts, obs)) :
    pts = (clouds rs).flatten ∧ obs = shiftedFrom 0 rs ∧
    (∀ r ∈ rs, r.points.isSome = true → r.cols = c) ∧ (clouds rs = [] → c = 6 ∧ pts = [] ∧ obs = []) := by
  unfold mergePointsObs at h
  split at h
  · next a hf =>
    cases h
    obtain ⟨h1, h2, h3, -, h5⟩ := fold_spec rs _ a (fun _ => rfl) hf
    exact ⟨by simpa using h1, by simpa using h2, h3, fun hcl => by rw [h5 hcl]; exact ⟨rfl, rfl, rfl⟩⟩
  · cases h

end Kapture.C11
