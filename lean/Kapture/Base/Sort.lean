/-
  Base/Sort.lean — `sorted(list_of_ints)` as insertion sort, with the facts C07 needs.
  (Python's sort of distinct ints is determined by the result being ordered and a permutation; any algorithm does.)
  Used by C07 only; the sorts of the other models stand in their model files.
-/
namespace Kapture.Sort

def insertSorted (x : Int) : List Int → List Int
  | [] => [x]
  | y :: ys => if x ≤ y then x :: y :: ys else y :: insertSorted x ys

def isort (l : List Int) : List Int := l.foldr insertSorted []

theorem insertSorted_perm (x : Int) (l : List Int) : (insertSorted x l).Perm (x :: l) := by
  fun_induction insertSorted x l with
  | case1 | case2 => exact .refl _
  | case3 y ys _ ih => exact (ih.cons y).trans (.swap x y ys)

theorem isort_perm (l : List Int) : (isort l).Perm l := by
  induction l with
  | nil => rfl
  | cons h t ih => exact (insertSorted_perm h _).trans (ih.cons h)

theorem mem_insertSorted (x y : Int) (l : List Int) : y ∈ insertSorted x l ↔ y = x ∨ y ∈ l := by
  rw [(insertSorted_perm x l).mem_iff, List.mem_cons]

theorem mem_isort (y : Int) (l : List Int) : y ∈ isort l ↔ y ∈ l := (isort_perm l).mem_iff

theorem pairwise_lt_insertSorted (x : Int) (l : List Int) (hs : l.Pairwise (· < ·)) (hx : x ∉ l) :
    (insertSorted x l).Pairwise (· < ·) := by
  induction l with
  | nil => simp [insertSorted]
  | cons h t ih =>
    obtain ⟨hh, ht⟩ := List.pairwise_cons.mp hs
    obtain ⟨hxh, hxt⟩ := not_or.mp (mt List.mem_cons.mpr hx)
    simp only [insertSorted]
    split
    · refine List.pairwise_cons.mpr ⟨fun a ha => ?_, hs⟩
      rcases List.mem_cons.mp ha with rfl | ha
      · omega
      · have := hh a ha; omega
    · refine List.pairwise_cons.mpr ⟨fun a ha => ?_, ih ht hxt⟩
      rcases (mem_insertSorted x a t).mp ha with rfl | ha
      · omega
      · exact hh a ha

theorem pairwise_lt_isort (l : List Int) (hn : l.Nodup) : (isort l).Pairwise (· < ·) := by
  induction l with
  | nil => simp [isort]
  | cons h t ih =>
    obtain ⟨hh, ht⟩ := List.nodup_cons.mp hn
    exact pairwise_lt_insertSorted h _ (ih ht) (fun hm => hh ((mem_isort h t).mp hm))

theorem sorted_ext (l₁ l₂ : List Int) (h₁ : l₁.Pairwise (· < ·)) (h₂ : l₂.Pairwise (· < ·))
    (hm : ∀ x, x ∈ l₁ ↔ x ∈ l₂) : l₁ = l₂ := by
  have nodup : ∀ {l : List Int}, l.Pairwise (· < ·) → l.Nodup := fun h => h.imp Int.ne_of_lt
  refine ((List.perm_ext_iff_of_nodup (nodup h₁) (nodup h₂)).mpr hm).eq_of_pairwise ?_ h₁ h₂
  omega

end Kapture.Sort
