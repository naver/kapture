/-
  Base/Dict.lean — a Python `dict` as an insertion-ordered association list.
  `set` overwrites in place or appends (like `d[k] = v`), `erase` removes the first binding (like `del d[k]`),
  `get?` is `d.get(k)`.  The "keys are unique" invariant is a separate theorem, not a subtype.  No Mathlib.
  Two facts about any list whose members have distinct keys come first.
  First-wins insertion loops and lookups in `flatMap`s of bindings are in Lemmas/C09.lean, `section generic`.
-/
namespace Kapture.Dict

theorem find?_key_of_mem {α κ : Type} [DecidableEq κ] (key : α → κ) :
    ∀ (l : List α), (l.map key).Nodup → ∀ a ∈ l, l.find? (fun x => key x = key a) = some a := by
  intro l
  induction l with
  | nil => intro _ a h; cases h
  | cons x xs ih =>
    intro hn a ha
    rw [List.map_cons, List.nodup_cons] at hn
    rcases List.mem_cons.1 ha with rfl | ha
    · simp
    · have : key x ≠ key a := fun e => hn.1 (e ▸ List.mem_map_of_mem ha)
      simp [this, ih hn.2 a ha]

theorem eq_of_nodup_map {α κ : Type} [DecidableEq κ] {key : α → κ} {l : List α} (hn : (l.map key).Nodup) {a b : α}
    (ha : a ∈ l) (hb : b ∈ l) (h : key a = key b) : a = b :=
  Option.some.inj ((find?_key_of_mem key l hn a ha).symm.trans (h ▸ find?_key_of_mem key l hn b hb))

variable {κ ν : Type} [DecidableEq κ]

def get? (k : κ) : List (κ × ν) → Option ν
  | [] => none
  | (k', v) :: r => if k' = k then some v else get? k r

def set (k : κ) (v : ν) : List (κ × ν) → List (κ × ν)
  | [] => [(k, v)]
  | (k', v') :: r => if k' = k then (k, v) :: r else (k', v') :: set k v r

def erase (k : κ) : List (κ × ν) → List (κ × ν)
  | [] => []
  | (k', v') :: r => if k' = k then r else (k', v') :: erase k r

def has (k : κ) (l : List (κ × ν)) : Bool := (get? k l).isSome

def keys (l : List (κ × ν)) : List κ := l.map Prod.fst

/-- build a dict from a list of bindings, later bindings overwrite (like `dict(pairs)`) -/
def ofList (l : List (κ × ν)) : List (κ × ν) := l.foldl (fun acc kv => set kv.1 kv.2 acc) []

@[simp] theorem get?_nil (k : κ) : get? k ([] : List (κ × ν)) = none := rfl

theorem mem_keys_iff (k : κ) (l : List (κ × ν)) : k ∈ keys l ↔ (get? k l).isSome = true := by
  fun_induction get? k l with
  | case1 => simp [keys]
  | case2 r v => simp [keys]
  | case3 k' v r hne ih => rw [← ih]; simp [keys, Ne.symm hne]

theorem get?_eq_none_iff (k : κ) (l : List (κ × ν)) : get? k l = none ↔ k ∉ keys l := by
  rw [mem_keys_iff]
  simp

theorem mem_of_get? {k : κ} {v : ν} {l : List (κ × ν)} (h : get? k l = some v) : (k, v) ∈ l := by
  fun_induction get? k l with
  | case1 => cases h
  | case2 r v' => cases h; exact List.mem_cons_self
  | case3 k' v' r hne ih => exact List.mem_cons_of_mem _ (ih h)

theorem mem_keys_of_get? {k : κ} {v : ν} {l : List (κ × ν)} (h : get? k l = some v) : k ∈ keys l :=
  List.mem_map_of_mem (f := Prod.fst) (mem_of_get? h)

theorem get?_eq_find? (k : κ) (l : List (κ × ν)) : get? k l = (l.find? (fun e => e.1 = k)).map Prod.snd := by
  fun_induction get? k l with
  | case1 => rfl
  | case2 r v => rw [List.find?_cons_of_pos (by simp)]; rfl
  | case3 k' v r hne ih => rw [List.find?_cons_of_neg (by simpa using hne)]; exact ih

theorem get?_of_mem {k : κ} {v : ν} {l : List (κ × ν)} (hn : (keys l).Nodup) (h : (k, v) ∈ l) : get? k l = some v := by
  rw [get?_eq_find?, find?_key_of_mem Prod.fst l hn (k, v) h]
  rfl

theorem get?_eq_some_iff {k : κ} {v : ν} {l : List (κ × ν)} (hn : (keys l).Nodup) : get? k l = some v ↔ (k, v) ∈ l :=
  ⟨mem_of_get?, get?_of_mem hn⟩

theorem get?_append (k : κ) (a b : List (κ × ν)) : get? k (a ++ b) = (get? k a).or (get? k b) := by
  induction a with
  | nil => exact (Option.none_or).symm
  | cons hd tl ih =>
    rw [List.cons_append, get?, get?]
    split
    · rfl
    · exact ih

theorem get?_set (k k2 : κ) (v : ν) (l : List (κ × ν)) :
    get? k2 (set k v l) = if k2 = k then some v else get? k2 l := by
  fun_induction set k v l <;> grind [get?]

theorem get?_set_self (k : κ) (v : ν) (l : List (κ × ν)) : get? k (set k v l) = some v := by
  simp [get?_set]

theorem get?_set_ne (k k2 : κ) (v : ν) (l : List (κ × ν)) (h : k2 ≠ k) : get? k2 (set k v l) = get? k2 l := by
  simp [get?_set, h]

theorem get?_erase_ne (k k2 : κ) (l : List (κ × ν)) (h : k2 ≠ k) : get? k2 (erase k l) = get? k2 l := by
  fun_induction erase k l <;> grind [get?]

theorem get?_erase_self (k : κ) (l : List (κ × ν)) (hn : (keys l).Nodup) : get? k (erase k l) = none := by
  fun_induction erase k l with
  | case1 => rfl
  | case2 r v' => exact (get?_eq_none_iff _ _).mpr (List.nodup_cons.mp hn).1
  | case3 k' v' r hne ih => simpa [get?, hne] using ih (List.nodup_cons.mp hn).2

theorem get?_erase (k k2 : κ) (l : List (κ × ν)) (hn : (keys l).Nodup) :
    get? k2 (erase k l) = if k2 = k then none else get? k2 l := by
  split
  · next h => subst h; exact get?_erase_self _ _ hn
  · next h => exact get?_erase_ne _ _ _ h

theorem mem_keys_set (k k2 : κ) (v : ν) (l : List (κ × ν)) : k2 ∈ keys (set k v l) ↔ k2 = k ∨ k2 ∈ keys l := by
  rw [mem_keys_iff, mem_keys_iff, get?_set]
  split <;> simp [*]

theorem mem_keys_erase (k k2 : κ) (l : List (κ × ν)) (hn : (keys l).Nodup) :
    k2 ∈ keys (erase k l) ↔ k2 ≠ k ∧ k2 ∈ keys l := by
  rw [mem_keys_iff, mem_keys_iff, get?_erase _ _ _ hn]
  split <;> simp [*]

theorem keys_set_of_mem {k : κ} {l : List (κ × ν)} (v : ν) (h : k ∈ keys l) : keys (set k v l) = keys l := by
  fun_induction set k v l with
  | case1 => cases h
  | case2 r v' => rfl
  | case3 k' v' r hne ih => exact congrArg (k' :: ·) (ih ((List.mem_cons.mp h).resolve_left (Ne.symm hne)))

theorem set_eq_append {k : κ} {l : List (κ × ν)} (v : ν) (h : get? k l = none) : set k v l = l ++ [(k, v)] := by
  fun_induction set k v l with
  | case1 => rfl
  | case2 r v' => rw [get?, if_pos rfl] at h; cases h
  | case3 k' v' r hne ih => rw [get?, if_neg hne] at h; rw [ih h]; rfl

theorem nodup_set (k : κ) (v : ν) (l : List (κ × ν)) (hn : (keys l).Nodup) : (keys (set k v l)).Nodup := by
  fun_induction set k v l with
  | case1 => simp [keys]
  | case2 r v' => exact hn
  | case3 k' v' r hne ih =>
    obtain ⟨hk', hr⟩ := List.nodup_cons.mp hn
    refine List.nodup_cons.mpr ⟨fun hm => ?_, ih hr⟩
    rcases (mem_keys_set k k' v r).mp hm with h | h
    · exact hne h
    · exact hk' h

theorem nodup_erase (k : κ) (l : List (κ × ν)) (hn : (keys l).Nodup) : (keys (erase k l)).Nodup := by
  fun_induction erase k l with
  | case1 => exact hn
  | case2 r v' => exact (List.nodup_cons.mp hn).2
  | case3 k' v' r hne ih =>
    obtain ⟨hk', hr⟩ := List.nodup_cons.mp hn
    exact List.nodup_cons.mpr ⟨fun hm => hk' ((mem_keys_erase k k' r hr).mp hm).2, ih hr⟩

theorem erase_eq_nil_iff (k : κ) (l : List (κ × ν)) (hn : (keys l).Nodup) :
    erase k l = [] ↔ ∀ k2, k2 ≠ k → get? k2 l = none := by
  constructor
  · intro h k2 hne
    rw [← get?_erase_ne k k2 l hne, h, get?_nil]
  · intro h
    cases he : erase k l with
    | nil => rfl
    | cons hd t =>
      have hm : hd.1 ∈ keys (erase k l) := by simp [he, keys]
      obtain ⟨hne, hin⟩ := (mem_keys_erase k hd.1 l hn).mp hm
      exact absurd hin ((get?_eq_none_iff _ _).mp (h hd.1 hne))

/-- `d.setdefault(k', v)` -/
theorem get?_setdefault (k' : κ) (v : ν) (acc : List (κ × ν)) (k : κ) :
    get? k (if has k' acc then acc else set k' v acc) = get? k (acc ++ [(k', v)]) := by
  rw [get?_append]
  unfold has
  by_cases hk : k' = k
  · subst hk
    cases h : get? k' acc <;> simp [h, get?, get?_set_self]
  · cases get? k' acc <;> simp [hk, get?, get?_set_ne _ _ _ _ (Ne.symm hk)]

theorem get?_foldl_set (k : κ) (l acc : List (κ × ν)) :
    get? k (l.foldl (fun acc kv => set kv.1 kv.2 acc) acc) = (get? k l.reverse).or (get? k acc) := by
  induction l generalizing acc with
  | nil => exact (Option.none_or).symm
  | cons hd tl ih =>
    rw [List.foldl_cons, ih, List.reverse_cons, get?_append, get?_set, Option.or_assoc]
    congr 1
    rw [get?, get?_nil]
    split
    · next h => rw [if_pos h.symm]; rfl
    · next h => rw [if_neg (Ne.symm h)]; rfl

theorem get?_ofList (k : κ) (l : List (κ × ν)) : get? k (ofList l) = get? k l.reverse :=
  (get?_foldl_set k l []).trans Option.or_none

theorem foldl_eq_append {step : List (κ × ν) → κ × ν → List (κ × ν)}
    (hstep : ∀ acc kv, get? kv.1 acc = none → step acc kv = acc ++ [kv]) (l acc : List (κ × ν))
    (h : (keys (acc ++ l)).Nodup) : l.foldl step acc = acc ++ l := by
  induction l generalizing acc with
  | nil => rw [List.foldl_nil, List.append_nil]
  | cons hd t ih =>
    have hfresh : hd.1 ∉ keys acc := fun hm => by
      rw [keys, List.map_append, List.nodup_append] at h
      exact h.2.2 _ hm _ List.mem_cons_self rfl
    rw [List.foldl_cons, hstep _ _ ((get?_eq_none_iff _ _).mpr hfresh), ih _ (by rwa [List.append_assoc]),
      List.append_assoc]
    rfl

theorem ofList_of_nodup (l : List (κ × ν)) (h : (keys l).Nodup) : ofList l = l :=
  foldl_eq_append (fun _ kv => set_eq_append kv.2) l [] h

theorem nodup_ofList (l : List (κ × ν)) : (keys (ofList l)).Nodup :=
  List.foldlRecOn (motive := fun acc => (keys acc).Nodup) l _ List.nodup_nil fun _ h _ _ => nodup_set _ _ _ h

end Kapture.Dict
