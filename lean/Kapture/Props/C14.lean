/-
  Props/C14.lean — property theorems for C14 (OpenMVG export then import preserves images, poses, structure and matches).
  Property theorems ONLY; definitions of the specification side and helper lemmas live in Lemmas/C14.lean.
  Every statement is universally quantified: any field `K` (poses, intrinsics), any quaternion of non-zero norm, any
  number of images / cameras / points / observations / match rows, any image names.
-/
import Kapture.Lemmas.C14
import Kapture.Lemmas.C14Gen


namespace Kapture.C14
open Kapture.C05 Kapture.Gen.RotMat

/-! ## poses -/
section pose
variable {K : Type} [Field K] [DecidableEq K]

/-- what export writes as "center" is the camera centre: the world point the pose sends to the origin.  This fixes the
  centre-versus-translation convention independently of any golden file. -/
theorem centre_is_camera_centre (p : Pose K) (h : qnorm p.r ≠ 0) : transform p (exportCentre p) = V3.zero :=
  -- the translation of `compose2 p (inverse p) = identity`
  congrArg Pose.t (compose_inverse_right p h)

/-- the translation survives the loop exactly: `-1 * (R (inverse(pose).t)) = t`, i.e. `-R(-Rᵀ t) = t` -/
theorem centre_roundtrip (p : Pose K) (h : qnorm p.r ≠ 0) : importT (exportRotation p) (exportCentre p) = p.t := by
  rw [importT_eq, exportRotation_mulVec_centre p h]
  simp only [V3.mulNegOne, mul_neg_one, neg_neg]

/-- the whole pose survives as a rigid transform, whatever quaternion the library picks for the exported matrix, as
  long as it has that matrix (sign and scale of the quaternion are irrelevant) -/
theorem pose_roundtrip (p : Pose K) (q' : Quat K) (h : qnorm p.r ≠ 0) (hq : rot q' = exportRotation p) (x : V3 K) :
    transform ⟨q', importT (exportRotation p) (exportCentre p)⟩ x = transform p x := by
  rw [centre_roundtrip p h]
  simp only [transform, hq, exportRotation]

/-- in particular for every non-zero multiple of the original quaternion (`-q`, or an un-normalised `q`) -/
theorem pose_roundtrip_sign_scale (p : Pose K) (c : K) (hc : c ≠ 0) (h : qnorm p.r ≠ 0) (x : V3 K) :
    transform ⟨Quat.smul c p.r, importT (exportRotation p) (exportCentre p)⟩ x = transform p x :=
  pose_roundtrip p _ h (by simpa [exportRotation] using rot_scale_invariant c p.r hc h) x

end pose

/-! ## intrinsics -/
section intr
section gen
variable {K : Type} [Add K] [Div K] [OfNat K 0] [OfNat K 2]

/-- the hand-written intrinsics export of Model/C14.lean IS what the GENERATED branch table says (Gen/MvgIntrinsics.lean, translated
  on every run from `_export_openmvg_intrinsics` — camera types per branch, OpenMVG model, getter, the `faked_params` expressions —
  and from the `_get_intrinsic_*` getters — distortion indexes, value0 nesting): whenever the model exports a camera, reading
  the generated table gives the same intrinsic, for every camera type, parameter list and both layouts -/
theorem generated_intrinsics_is_the_model (v2 : Bool) (c : Cam K) (i : Intrinsic K) (h : exportCam v2 c = some i) :
    genExportCam v2 c = some i := by
  revert h
  -- One case per camera type of the hand model.  The `simp only` evaluates the look-ups of the generated table alone, while
  -- the parameter list and `v2` are still variables: each string comparison is made once, and no row that is not selected is
  -- normalised.  `layout_eq` writes the model's layout switch as the table's reader does.  What is left is the parameter
  -- shuffle of the row against the model's, which holds by computation (OPENCV, FULL_OPENCV: with and without a ninth parameter).
  fun_cases exportCam v2 c <;> rintro ⟨⟩ <;>
    simp only [genExportCam, *, camTypeName, Gen.MvgIntrinsics.branches, List.contains_cons, List.contains_nil,
      String.reduceBEq, Bool.or_false, Bool.false_or, List.find?_cons, mvgModelOf, Gen.MvgIntrinsics.getters,
      Bool.true_and, layout_eq]
  · rfl
  · rfl
  · rfl
  · rfl
  · next rest _ _ _ => cases rest <;> rfl
  · next rest _ _ _ => cases rest <;> rfl
  · rfl
  · rfl
  · rfl

/-- in every generated `faked_params` list the first two entries are camera_params[0] and camera_params[1] (width, height), and the
  only camera type whose branch the translator does not render is UNKNOWN_CAMERA (outside the model) -/
theorem generated_intrinsics_width_height :
    (∀ b ∈ Gen.MvgIntrinsics.branches 12 (fun i => (i : Int)), ∀ l, b.2.2.2 = some l → l.take 2 = [0, 1]) ∧
    Gen.MvgIntrinsics.untranslated = ["UNKNOWN_CAMERA"] := by
  decide

end gen

section geni
variable {K : Type} [OfNat K 0] [DecidableEq K]

/-- the same for the import side: whenever the model imports an intrinsic, reading the GENERATED table of `_import_openmvg_cameras`
  (OpenMVG model, the guard on disto_t2[2], kapture camera type, value0-or-data versus data-only reads, the parameter list of
  every kapture.Camera(...) call) gives the same camera -/
theorem generated_import_is_the_model (i : Intrinsic K) (c : Cam K) (h : importCam i = some c) : genImportCam i = some c := by
  revert h
  -- as for the export: the cases of the hand model, the look-ups of the generated table, then computation
  fun_cases importCam i <;> rintro ⟨⟩ <;>
    simp only [genImportCam, *, mvgModelName, Gen.MvgIntrinsics.imports, String.reduceBEq, Bool.false_and, Bool.true_and,
      Bool.true_or, Bool.false_or, List.find?_cons, List.getD_cons_succ, List.getD_cons_zero, decide_not, decide_false,
      Bool.not_true, Bool.not_false, Bool.true_beq, BEq.rfl, Bool.and_false, Bool.false_eq_true, if_false, camTypeOf] <;>
    rfl

/-- every generated parameter list starts with width and height -/
theorem generated_import_width_height :
    ∀ b ∈ Gen.MvgIntrinsics.imports (⟨0, 0, 0⟩ : Gen.MvgIntrinsics.ImpCommon Int) [], ∃ rest,
      b.2.2.2.2 = Gen.MvgIntrinsics.ImpEntry.width :: Gen.MvgIntrinsics.ImpEntry.height :: rest := by
  intro b hb
  simp only [Gen.MvgIntrinsics.imports, List.mem_cons, List.not_mem_nil, or_false] at hb
  rcases hb with rfl | rfl | rfl | rfl | rfl | rfl <;> exact ⟨_, rfl⟩

end geni

variable {K : Type} [Field K] [DecidableEq K]

/-- export then import of a representable camera gives `canon` of it, for both intrinsic layouts -/
theorem intrinsics_roundtrip (v2 : Bool) (c : Cam K) (h2 : (2 : K) ≠ 0) (hr : Representable c) :
    (exportCam v2 c).bind importCam = some (canon c) := by
  cases hr with
  | simplePinhole w h f cx cy => rfl
  | pinhole w h f cx cy => simp only [exportCam, Option.bind_some, importCam, canon, half_double f h2]
  | simpleRadial w h f cx cy k => rfl
  | radial w h f cx cy k1 k2 => rfl
  | opencv w h f cx cy k1 k2 p1 p2 =>
    simp [exportCam, importCam, canon, unnest_layout, half_double f h2]
  | fullOpencv w h f cx cy k1 k2 p1 p2 k3 =>
    by_cases hk : k3 = 0 <;> simp [exportCam, importCam, canon, unnest_layout, half_double f h2, hk]

/-- on SIMPLE_PINHOLE, SIMPLE_RADIAL, RADIAL, OPENCV and FULL_OPENCV (k3 ≠ 0) the loop is the identity on the parameter list -/
theorem intrinsics_identity (v2 : Bool) (c : Cam K) (h2 : (2 : K) ≠ 0) (hr : Representable c)
    (ht : c.type ≠ CamType.PINHOLE) (hk : c.type = CamType.FULL_OPENCV → c.params[8]? ≠ some 0) :
    (exportCam v2 c).bind importCam = some c := by
  rw [intrinsics_roundtrip v2 c h2 hr]
  cases hr with
  | pinhole w h f cx cy => exact absurd rfl ht
  | fullOpencv w h f cx cy k1 k2 p1 p2 k3 =>
    have : k3 ≠ 0 := fun e => hk rfl (by rw [e]; rfl)
    simp only [canon, if_neg this]
  | _ => rfl

/-- in every case the camera that comes back has the same image size and the same Brown parameters: the same projection -/
theorem intrinsics_same_projection (v2 : Bool) (c : Cam K) (h2 : (2 : K) ≠ 0) (hr : Representable c) :
    ∃ c', (exportCam v2 c).bind importCam = some c' ∧ c'.w = c.w ∧ c'.h = c.h ∧ brown c' = brown c ∧ (brown c).isSome := by
  refine ⟨canon c, intrinsics_roundtrip v2 c h2 hr, ?_⟩
  cases hr with
  | fullOpencv w h f cx cy k1 k2 p1 p2 k3 =>
    by_cases hk : k3 = 0 <;> simp [canon, brown, hk]
  | _ => exact ⟨rfl, rfl, rfl, rfl⟩

end intr

/-! ## identifiers -/

/-- view ids and camera ids are 0, 1, 2, ... in order of first appearance, without repeated keys -/
theorem ids_dense (recs : List Rec) : Dense (viewIds recs) ∧ Dense (camIds recs) :=
  ⟨dense_ids Rec.name recs, dense_ids Rec.cam recs⟩

/-- every image and every camera of records_camera gets an id -/
theorem ids_complete (recs : List Rec) (r : Rec) (h : r ∈ recs) :
    (∃ i, Dict.get? r.name (viewIds recs) = some i ∧ i < (viewIds recs).length) ∧
    (∃ c, Dict.get? r.cam (camIds recs) = some c ∧ c < (camIds recs).length) := by
  obtain ⟨i, hi⟩ := has_ids Rec.name h
  obtain ⟨c, hc⟩ := has_ids Rec.cam h
  exact ⟨⟨i, hi, dense_lt (ids_dense recs).1 hi⟩, ⟨c, hc, dense_lt (ids_dense recs).2 hc⟩⟩

/-- the id assignment is injective: two image names (two cameras) never share an id -/
theorem ids_injective (recs : List Rec) (a b : Str) (i : Nat) :
    (Dict.get? a (viewIds recs) = some i → Dict.get? b (viewIds recs) = some i → a = b) ∧
    (Dict.get? a (camIds recs) = some i → Dict.get? b (camIds recs) = some i → a = b) :=
  ⟨dense_injective (ids_dense recs).1, dense_injective (ids_dense recs).2⟩

/-! ## image names -/

/-- an image name is the common image directory followed by a non-empty relative name -/
theorem name_decomposition (recs : List Rec) (r : Rec) (h : r ∈ recs) :
    joinSlash (subRoot recs ++ relOf (subRoot recs) r.name) = r.name ∧ relOf (subRoot recs) r.name ≠ [] := by
  obtain ⟨h1, h2⟩ := relOf_decompose (subRoot_prefix h)
  rw [h1, joinSlash_splitSlash]
  exact ⟨rfl, h2⟩

/-- the name import gives to the view of an image: the directory name of root_path, then the relative name (flattened
  or not).  Together with `name_decomposition`: the same image names up to the common image-root prefix. -/
theorem imported_name (flatten : Bool) (recs : List Rec) (cams views : List (Str × Nat)) (r : Rec) (v : View) (dir : Str)
    (h : r ∈ recs) (hne : ∀ c ∈ splitSlash r.name, c ≠ [])
    (hv : exportView flatten (subRoot recs) cams views r = some v) :
    importName dir v = dir ++ '/' :: (if flatten then flattenStr (joinSlash (relOf (subRoot recs) r.name))
                                      else joinSlash (relOf (subRoot recs) r.name)) := by
  obtain ⟨c, i, _, _, rfl⟩ := exportView_eq hv
  cases flatten with
  | true => rfl  -- the flattened path is one component: no directory, and the file name is all of it
  | false =>
    exact congrArg (dir ++ '/' :: ·) (join_dropLast_getLast (name_decomposition recs r h).2 (rel_comps_ne _ hne))

/-- without flattening distinct images keep distinct names -/
theorem imported_names_distinct (recs : List Rec) (cams views : List (Str × Nat)) (r1 r2 : Rec) (v1 v2 : View) (dir : Str)
    (h1 : r1 ∈ recs) (h2 : r2 ∈ recs) (hne1 : ∀ c ∈ splitSlash r1.name, c ≠ []) (hne2 : ∀ c ∈ splitSlash r2.name, c ≠ [])
    (hv1 : exportView false (subRoot recs) cams views r1 = some v1)
    (hv2 : exportView false (subRoot recs) cams views r2 = some v2)
    (e : importName dir v1 = importName dir v2) : r1.name = r2.name := by
  rw [imported_name false recs cams views r1 v1 dir h1 hne1 hv1,
    imported_name false recs cams views r2 v2 dir h2 hne2 hv2] at e
  have e' : joinSlash (relOf (subRoot recs) r1.name) = joinSlash (relOf (subRoot recs) r2.name) := by
    simpa using e
  obtain ⟨pre, hpre⟩ := names_common_prefix recs
  rw [hpre r1 h1, hpre r2 h2, e']

/-- flattening identifies two strings exactly when they differ only by '/' versus '_' -/
theorem flatten_eq_iff (a b : Str) : flattenStr a = flattenStr b ↔ sameUpToSep a b := by
  induction a generalizing b with
  | nil => cases b <;> simp [flattenStr, sameUpToSep]
  | cons x as ih =>
    cases b with
    | nil => simp [flattenStr, sameUpToSep]
    | cons y bs =>
      have ih' := ih bs
      simp only [flattenStr] at ih'
      simp only [flattenStr, List.map_cons, List.cons.injEq, sameUpToSep, ih']
      exact and_congr_left' (flatChar_eq_iff x y)

/-- in particular flattening is injective on names that contain no underscore -/
theorem flatten_injective (a b : Str) (ha : '_' ∉ a) (hb : '_' ∉ b) (e : flattenStr a = flattenStr b) : a = b := by
  rw [← flattenStr_unflatten ha, ← flattenStr_unflatten hb, e]

/-- with flattening two images get the same name exactly when their relative names differ only by '/' versus '_' -/
theorem imported_names_collide_iff (recs : List Rec) (cams views : List (Str × Nat)) (r1 r2 : Rec) (v1 v2 : View) (dir : Str)
    (h1 : r1 ∈ recs) (h2 : r2 ∈ recs) (hne1 : ∀ c ∈ splitSlash r1.name, c ≠ []) (hne2 : ∀ c ∈ splitSlash r2.name, c ≠ [])
    (hv1 : exportView true (subRoot recs) cams views r1 = some v1)
    (hv2 : exportView true (subRoot recs) cams views r2 = some v2) :
    importName dir v1 = importName dir v2 ↔
      sameUpToSep (joinSlash (relOf (subRoot recs) r1.name)) (joinSlash (relOf (subRoot recs) r2.name)) := by
  rw [imported_name true recs cams views r1 v1 dir h1 hne1 hv1,
    imported_name true recs cams views r2 v2 dir h2 hne2 hv2, ← flatten_eq_iff]
  simp

/-- without flattening the order of any two image names is unchanged (so the pairs of `matches` stay in order) -/
theorem order_preserved (recs : List Rec) (cams views : List (Str × Nat)) (r1 r2 : Rec) (v1 v2 : View) (dir : Str)
    (h1 : r1 ∈ recs) (h2 : r2 ∈ recs) (hne1 : ∀ c ∈ splitSlash r1.name, c ≠ []) (hne2 : ∀ c ∈ splitSlash r2.name, c ≠ [])
    (hv1 : exportView false (subRoot recs) cams views r1 = some v1)
    (hv2 : exportView false (subRoot recs) cams views r2 = some v2) :
    strLt (importName dir v1) (importName dir v2) = strLt r1.name r2.name := by
  rw [imported_name false recs cams views r1 v1 dir h1 hne1 hv1,
    imported_name false recs cams views r2 v2 dir h2 hne2 hv2]
  obtain ⟨pre, hpre⟩ := names_common_prefix recs
  -- both sides compare the relative names behind a common prefix: `dir/` after the loop, the common directory before it
  conv => rhs; rw [hpre r1 h1, hpre r2 h2, strLt_append_left]
  rw [strLt_append_left]
  exact strLt_append_left ['/'] _ _

/-! ## views -/

/-- every image of records_camera gets a view (export does not fail on ids) -/
theorem views_exported (flatten : Bool) (recs : List Rec) :
    ∃ vs, exportViews flatten (subRoot recs) (camIds recs) (viewIds recs) recs = some vs ∧
      ∀ r ∈ recs, ∃ v ∈ vs, exportView flatten (subRoot recs) (camIds recs) (viewIds recs) r = some v := by
  have hsome : ∀ r ∈ recs, (exportView flatten (subRoot recs) (camIds recs) (viewIds recs) r).isSome := by
    intro r hr
    obtain ⟨⟨i, hi, _⟩, ⟨c, hc, _⟩⟩ := ids_complete recs r hr
    simp [exportView, hi, hc]
  obtain ⟨vs, hvs⟩ := Option.isSome_iff_exists.mp (exportViews_isSome hsome)
  refine ⟨vs, hvs, fun r hr => ?_⟩
  have := List.mem_map_of_mem (f := exportView flatten (subRoot recs) (camIds recs) (viewIds recs)) hr
  rw [exportViews_map hvs, List.mem_map] at this
  obtain ⟨v, hv, e⟩ := this
  exact ⟨v, hv, e.symm⟩

/-- looking a view id up after import gives the (renamed) image it was assigned to on export -/
theorem view_lookup_roundtrip (flatten : Bool) (recs : List Rec) (vs : List View) (dir : Str)
    (hvs : exportViews flatten (subRoot recs) (camIds recs) (viewIds recs) recs = some vs) (r : Rec) (v : View) (hv : v ∈ vs)
    (hr : exportView flatten (subRoot recs) (camIds recs) (viewIds recs) r = some v) :
    Dict.get? r.name (viewIds recs) = some v.idView ∧
    Dict.get? v.idView (importViews dir vs) = some (importName dir v) := by
  obtain ⟨c, i, _, hi, hveq⟩ := exportView_eq hr
  have hid : v.idView = i := by rw [hveq]
  refine ⟨by rw [hid]; exact hi, ?_⟩
  refine get?_foldl_set_of_mem View.idView (importName dir) hv fun w hw e => ?_
  -- a view with the same id comes from a record with the same name, hence the same relative path
  obtain ⟨r', _, hr'⟩ := exportViews_mem hvs w hw
  obtain ⟨c', i', _, hi', hweq⟩ := exportView_eq hr'
  have hnames : r'.name = r.name :=
    (ids_injective recs r'.name r.name i).1 (by rw [← hid, ← e, hweq]; exact hi') hi
  rw [hweq, hveq, hnames]
  rfl

/-- import looks for the region files under exactly the base name export gave them (with and without flattening) -/
theorem regions_found (flatten : Bool) (recs : List Rec) (cams views : List (Str × Nat)) (r : Rec) (v : View) (dir : Str)
    (h : r ∈ recs) (hne : ∀ c ∈ splitSlash r.name, c ≠ [])
    (hv : exportView flatten (subRoot recs) cams views r = some v) :
    regionBaseImport (importName dir v) = regionBaseExport flatten (subRoot recs) r.name := by
  rw [imported_name flatten recs cams views r v dir h hne hv]
  unfold regionBaseImport regionBaseExport
  rw [getLastD_splitSlash_append]
  cases flatten with
  | true =>
    simp only [if_true, mvgPath]
    rw [splitSlash_of_no_slash (flattenStr_no_slash _)]
  | false =>
    simp only [Bool.false_eq_true, if_false, mvgPath]
    rw [splitSlash_joinSlash (name_decomposition recs r h).2 (rel_comps_no_slash _ _)]

/-! ## structure -/

/-- points come back in the same order with the same coordinates, and every observation comes back on the same point
  index, the renamed image and the same feature index — for any number of points and observations -/
theorem structure_roundtrip {α : Type} (views : List (Str × Nat)) (names : List (Nat × Str)) (ρ : Str → Str) (empty : α)
    (pts : List (α × PointObs)) (hne : pts ≠ []) (h : ∀ p ∈ pts, ObsResolved views names ρ p.2) :
    ∃ st, exportStructure views pts = some st ∧
      importStructure names empty st = Except.ok (some (pts.map (·.1)), renamedObs ρ 0 pts) := by
  obtain ⟨st, h1, h2, h3, h4⟩ := points_loop 0 h
  have hst : st ≠ [] := fun e => hne (by simpa [e] using h3.symm)
  refine ⟨st, h1, ?_⟩
  simp [importStructure, hst, h4, h3, importPoints_dense empty (by simpa using hne) h2]

/-- the observations that come back are exactly the renamed ones: nothing lost, nothing invented -/
theorem observations_exact {α : Type} (ρ : Str → Str) (pts : List (α × PointObs)) (x : Nat × Str × Nat) :
    x ∈ renamedObs ρ 0 pts ↔ ∃ j p, pts[j]? = some p ∧ ∃ o ∈ p.2, x = (j, ρ o.1, o.2) := by
  simpa only [Nat.zero_add] using mem_renamedObs ρ 0 pts x

/-- an empty cloud is exported as an empty structure and comes back as "no points" -/
theorem structure_empty {α : Type} (views : List (Str × Nat)) (names : List (Nat × Str)) (empty : α) :
    exportStructure views ([] : List (α × PointObs)) = some [] ∧
    importStructure names empty ([] : List (Nat × α × List (Nat × Nat))) = Except.ok (none, []) := ⟨rfl, rfl⟩

/-! ## matches -/

/-- every pair goes out under its two view ids and comes back under the two renamed images, with the index columns swapped
  exactly when the renamed names are in the other order — for any number of pairs and rows -/
theorem matches_roundtrip (views : List (Str × Nat)) (names : List (Nat × Str)) (ρ : Str → Str)
    (ms : List ((Str × Str) × List (Nat × Nat))) (h : ∀ m ∈ ms, PairResolved views names ρ m) :
    ∃ bs, exportMatches views ms = some bs ∧ importMatches names bs = Except.ok (ms.map (renamedBlock ρ)) := by
  induction ms with
  | nil => exact ⟨[], rfl, rfl⟩
  | cons m r ih =>
    obtain ⟨bs, h1, h2⟩ := ih (fun x hx => h x (List.mem_cons_of_mem _ hx))
    obtain ⟨⟨i, hi1, hi2⟩, ⟨j, hj1, hj2⟩⟩ := h m List.mem_cons_self
    refine ⟨((i, j), m.2) :: bs, by simp [exportMatches, hi1, hj1, h1], ?_⟩
    by_cases hs : strLt (ρ m.1.2) (ρ m.1.1) = true <;>
      simp [importMatches, importMatchBlock, hi2, hj2, h2, renamedBlock, hs]

/-- the same index pairs per image pair: feature x of image a is matched with feature y of image b before the loop exactly
  when feature x of the renamed a is matched with feature y of the renamed b after it (whichever way the block is stored) -/
theorem match_pairs_preserved (ρ : Str → Str) (m : (Str × Str) × List (Nat × Nat)) (hab : ρ m.1.1 ≠ ρ m.1.2) (x y : Nat) :
    pairedIn (renamedBlock ρ m) (ρ m.1.1) x (ρ m.1.2) y ↔ (x, y) ∈ m.2 := by
  have hne : (ρ m.1.2, ρ m.1.1) ≠ (ρ m.1.1, ρ m.1.2) := fun e => hab (Prod.mk.inj e).2
  unfold pairedIn renamedBlock
  split
  · -- stored the other way round: only the second alternative can hold, on the swapped rows
    rw [or_iff_right fun h => hne h.1, and_iff_right rfl, List.mem_map]
    exact ⟨fun ⟨r, hr, e⟩ => by cases e; exact hr, fun h => ⟨(x, y), h, rfl⟩⟩
  · rw [or_iff_left fun h => hne h.1.symm, and_iff_right rfl]

/-! ## non-vacuity -/

-- a concrete posed image over ℚ: 120 degree rotation, centre (-3, 1, 2), and the translation comes back
example : qnorm ((⟨⟨1/2, 1/2, -1/2, 1/2⟩, ⟨1, 2, 3⟩⟩ : Pose ℚ)).r ≠ 0 := by simp only [qnorm]; norm_num
example : exportCentre (⟨⟨1/2, 1/2, -1/2, 1/2⟩, ⟨1, 2, 3⟩⟩ : Pose ℚ) = ⟨-3, 1, 2⟩ := by decide +kernel
-- a representable camera exists for every constructor, e.g. a FULL_OPENCV one with k3 ≠ 0
example : Representable (⟨CamType.FULL_OPENCV, 640, 480, [500, 500, 320, 240, 1, 2, 3, 4, 5, 0, 0, 0]⟩ : Cam ℚ) :=
  Representable.fullOpencv 640 480 500 320 240 1 2 3 4 5
-- two images under a common directory, flattened: ids, sub root, names
-- (for `String.toList_ofList` see Props/Csv.lean)
example : subRoot [⟨10, "c".toList, "a/s/x.jpg".toList⟩, ⟨11, "c".toList, "a/y.jpg".toList⟩] = ["a".toList] := by
  repeat rw [String.toList_ofList]
  decide
example : (exportView true ["a".toList] [("c".toList, 0)] [("a/s/x.jpg".toList, 0)] ⟨10, "c".toList, "a/s/x.jpg".toList⟩).map
    (importName "a".toList) = some "a/s_x.jpg".toList := by
  repeat rw [String.toList_ofList]
  decide
-- the hypotheses of structure_roundtrip / matches_roundtrip are met by the tables of that export
example : ObsResolved [("a/s/x.jpg".toList, 0)] [(0, "a/s_x.jpg".toList)] (fun _ => "a/s_x.jpg".toList) [("a/s/x.jpg".toList, 7)] := by
  repeat rw [String.toList_ofList]
  intro o ho
  cases List.mem_singleton.mp ho
  exact ⟨0, by decide, by decide, by decide⟩
-- a flip: "a/z" < "aB" but "a_z" > "aB", so the columns of that pair are swapped
example : strLt "a/z".toList "aB".toList = true ∧ strLt (flattenStr "aB".toList) (flattenStr "a/z".toList) = true := by
  repeat rw [String.toList_ofList]
  decide

end Kapture.C14
