/-
  Props/C04.lean — property theorems for C04 (a loaded dataset has no dangling references and loses nothing that resolves).
  Property theorems ONLY.  For EVERY directory content (any rows, any dangling entries, any version string).
-/
import Kapture.Lemmas.C04

namespace Kapture.C04

/-- every loaded record refers to a declared sensor of the matching kind -/
theorem records_closed (cur : String) (d : Dir) (l : Loaded) (h : loadDir cur d = Except.ok l)
    (kind : String) (rows : List (Int × String × Tok)) (hk : (kind, rows) ∈ l.records)
    (r : Int × String × Tok) (hr : r ∈ rows) :
    ∃ ty, (kind, ty) ∈ kindOfRecords ∧ declaredOfType d r.2.1 ty := by
  rw [(loadDir_ok h).records] at hk
  obtain ⟨rows₀, ty, -, hty, -, rfl⟩ := mem_loadRecords.1 hk
  exact ⟨ty, List.mem_of_find?_eq_some hty, mem_idsOfType.1 (mem_filterDevices.1 hr).2⟩

/-- ... and no record whose sensor is declared with the matching kind is dropped -/
theorem records_complete (cur : String) (d : Dir) (l : Loaded) (h : loadDir cur d = Except.ok l)
    (kind ty : String) (rows : List (Int × String × Tok)) (hk : (kind, rows) ∈ d.records)
    (hty : kindOfRecords.find? (fun e => e.1 == kind) = some (kind, ty))
    (r : Int × String × Tok) (hr : r ∈ rows) (hd : declaredOfType d r.2.1 ty) :
    ∃ rows', (kind, rows') ∈ l.records ∧ r ∈ rows' := by
  have hin : r.2.1 ∈ idsOfType d ty := mem_idsOfType.2 hd
  have hne : (idsOfType d ty).isEmpty = false := List.isEmpty_eq_false_iff_exists_mem.2 ⟨_, hin⟩
  exact ⟨_, (loadDir_ok h).records ▸ mem_loadRecords.2 ⟨rows, ty, hk, hty, by rw [hne, Bool.and_false], rfl⟩,
    mem_filterDevices.2 ⟨hr, hin⟩⟩

/-- every loaded trajectory entry refers to a declared sensor or rig; none that does is dropped -/
theorem trajectories_closed_complete (cur : String) (d : Dir) (l : Loaded) (h : loadDir cur d = Except.ok l)
    (rows : List (Int × String × Tok)) (hd : d.trajectories = some rows) :
    ∃ rows', l.trajectories = some rows' ∧
      ∀ r, r ∈ rows' ↔ (r ∈ rows ∧ (r.2.1 ∈ sensorIds d ∨ isRigId d r.2.1)) := by
  have htraj := (loadDir_ok h).trajectories
  rw [hd] at htraj
  refine ⟨_, htraj, fun r => ?_⟩
  rw [mem_filterDevices, List.mem_append, isRigId_iff]

/-- every loaded rig member is a declared sensor or a rig; none that is, is dropped; and a rig id that collides with a
  sensor id makes the load fail -/
theorem rigs_closed_complete (cur : String) (d : Dir) (l : Loaded) (h : loadDir cur d = Except.ok l)
    (rows : List (String × String × Tok)) (hd : d.rigs = some rows) :
    (∀ r ∈ rows, r.1 ∉ sensorIds d) ∧
    ∃ rows', l.rigs = some rows' ∧
      ∀ r, r ∈ rows' ↔ (r ∈ rows ∧ (r.2.1 ∈ sensorIds d ∨ isRigId d r.2.1)) := by
  have hc := (loadDir_ok h).noCollision rows hd
  have hrigs := (loadDir_ok h).rigs
  rw [hd] at hrigs
  refine ⟨fun r hr hin => ?_, _, hrigs, fun r => ?_⟩
  · rw [List.any_eq_false] at hc
    exact hc r hr (List.contains_iff_mem.2 hin)
  · rw [List.mem_filter, rigKeep, Bool.or_eq_true, List.contains_iff_mem, List.contains_iff_mem, isRigId_iff, hd]
    rfl

theorem collision_rejected (cur : String) (d : Dir) (v : String) (rows : List (String × String × Tok))
    (hv : d.version = some v) (hg : versionGt v cur = false) (hd : d.rigs = some rows)
    (r : String × String × Tok) (hr : r ∈ rows) (hc : r.1 ∈ sensorIds d) :
    loadDir cur d = Except.error Err.collision := by
  have hany : rows.any (fun r => (sensorIds d).contains r.1) = true :=
    List.any_eq_true.2 ⟨r, hr, List.contains_iff_mem.2 hc⟩
  unfold loadDir
  rw [hv]
  dsimp only
  rw [hg, hd]
  dsimp only
  rw [loadRigs_eq, if_pos hany]
  rfl

/-- every loaded feature entry is a known image (a loaded camera record) whose data file exists; none such is dropped -/
theorem keypoints_closed_complete (cur : String) (d : Dir) (l : Loaded) (h : loadDir cur d = Except.ok l)
    (ts : List (String × Tok × List String)) (hk : l.keypoints = some ts) :
    ∃ ds, d.keypoints = some ds ∧ ts.map (·.1) = ds.map (·.1) ∧
      ∀ ty cfg names, (ty, cfg, names) ∈ ts →
        ∃ onDisk, (ty, cfg, onDisk) ∈ ds ∧ ∀ n, n ∈ names ↔ (n ∈ onDisk ∧ n ∈ loadedImages l) := by
  rcases (loadDir_ok h).recon with ⟨-, hkn, -⟩ | ⟨-, hkp, -⟩
  · rw [hkn] at hk; cases hk
  · rw [hkp] at hk
    obtain ⟨ds, hds, rfl⟩ := loadFeatures_some hk
    refine ⟨ds, hds, ?_, ?_⟩
    · rw [List.map_map]; rfl
    · intro ty cfg names hmem
      obtain ⟨⟨ty', cfg', onDisk⟩, hin, ⟨⟩⟩ := List.mem_map.1 hmem
      exact ⟨onDisk, hin, fun n => by simp only [List.mem_filter, List.contains_iff_mem]⟩

/-- every loaded match pair joins two known images -/
theorem matches_closed (cur : String) (d : Dir) (l : Loaded) (h : loadDir cur d = Except.ok l)
    (ts : List (String × List (String × String))) (hk : l.matchSets = some ts)
    (ty : String) (ps : List (String × String)) (ht : (ty, ps) ∈ ts) (p : String × String) (hp : p ∈ ps) :
    p.1 ∈ loadedImages l ∧ p.2 ∈ loadedImages l := by
  rcases (loadDir_ok h).recon with ⟨-, -, -, -, hmn, -⟩ | ⟨-, -, -, -, hm, -⟩
  · rw [hmn] at hk; cases hk
  · rw [hm] at hk
    obtain ⟨ds, -, rfl⟩ := loadMatches_some hk
    obtain ⟨⟨ty', ps'⟩, -, ⟨⟩⟩ := List.mem_map.1 ht
    simpa only [List.mem_filter, Bool.and_eq_true, List.contains_iff_mem] using (List.mem_filter.1 hp).2

/-- every loaded observation refers to a loaded keypoints type and to an image of that type; none such is dropped -/
theorem observations_closed_complete (cur : String) (d : Dir) (l : Loaded) (h : loadDir cur d = Except.ok l)
    (obs : List (Int × String × String × Int)) (ho : l.observations = some obs) :
    ∃ kps rows, l.keypoints = some kps ∧ d.observations = some rows ∧
      ∀ o, o ∈ obs ↔ (o ∈ rows ∧ ∃ cfg names, kps.find? (fun t => t.1 == o.2.1) = some (o.2.1, cfg, names) ∧ o.2.2.1 ∈ names) := by
  rcases (loadDir_ok h).recon with
    ⟨-, -, -, -, -, -, hon⟩ | ⟨-, -, -, -, -, -, ⟨-, hon⟩ | ⟨k, rows, hkp, hobs, hlo⟩⟩
  · rw [hon] at ho; cases ho
  · rw [hon] at ho; cases ho
  · rw [hlo] at ho
    cases ho
    exact ⟨k, rows, hkp, hobs, fun o => mem_loadObservations⟩

/-- a directory declaring a newer version is refused -/
theorem newer_refused (cur : String) (d : Dir) (v : String) (hv : d.version = some v) (hg : versionGt v cur = true) :
    loadDir cur d = Except.error Err.newerVersion := by
  rw [loadDir, hv]
  exact if_pos hg

/-- a directory declaring another (not newer) version loads its sensors-side files only, exactly as it would under
  the current version, without the reconstruction -/
theorem older_sensors_only (cur : String) (d : Dir) (v : String) (l : Loaded) (hv : d.version = some v)
    (hne : v ≠ cur) (h : loadDir cur d = Except.ok l) :
    l.keypoints = none ∧ l.descriptors = none ∧ l.globalFeatures = none ∧ l.matchSets = none ∧
    l.points3d = none ∧ l.observations = none ∧
    ∀ l', loadDir cur { d with version := some cur } = Except.ok l' →
      l'.sensors = l.sensors ∧ l'.rigs = l.rigs ∧ l'.trajectories = l.trajectories ∧ l'.records = l.records := by
  have H := loadDir_ok h
  have hlv : l.version = v := Option.some.inj (H.version.symm.trans hv)
  rcases H.recon with ⟨-, h1, h2, h3, h4, h5, h6⟩ | ⟨heq, -⟩
  · refine ⟨h1, h2, h3, h4, h5, h6, fun l' h' => ?_⟩
    -- the sensors side of a load does not look at the version
    have H' := loadDir_ok h'
    exact ⟨H'.sensors.trans H.sensors.symm, H'.rigs.trans H.rigs.symm, H'.trajectories.trans H.trajectories.symm,
      H'.records.trans H.records.symm⟩
  · exact absurd (hlv.symm.trans heq) hne

/-- the decimal comparison: 1.2, 2.0, 10.0 are newer than 1.1; 1.0, 0.9, 1.1, 1.10 are not -/
theorem version_order_examples :
    versionGt "1.2" "1.1" = true ∧ versionGt "2.0" "1.1" = true ∧ versionGt "10.0" "1.1" = true ∧
    versionGt "1.0" "1.1" = false ∧ versionGt "0.9" "1.1" = false ∧ versionGt "1.1" "1.1" = false ∧
    versionGt "1.10" "1.1" = false := by
  unfold versionGt
  rw [parseVersion_eq "1.2" "2" 1 (by decide),
    parseVersion_eq "2.0" "0" 2 (by decide),
    parseVersion_eq "10.0" "0" 10 (by decide),
    parseVersion_eq "1.0" "0" 1 (by decide),
    parseVersion_eq "0.9" "9" 0 (by decide),
    parseVersion_eq "1.1" "1" 1 (by decide),
    parseVersion_eq "1.10" "10" 1 (by decide)]
  decide

end Kapture.C04
