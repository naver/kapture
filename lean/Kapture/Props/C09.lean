/-
  Props/C09.lean — property theorems for C09 (merging with kept identifiers is a first-wins union that loses nothing).
  Property theorems ONLY.  For ANY number of inputs, any tables, any subset of parts missing in any input, any skip list.
-/
import Kapture.Lemmas.C09

namespace Kapture.C09

/-- first-wins: looking a key up in the merge gives the entry of the earliest input defining it -/
theorem merge_lookup_first_wins (ts : List (Option Table)) (k : Key) :
    Dict.get? k (mergeTable ts) = firstDefined ts k := by
  refine (get?_insFold₂ (fun x : Option Table => x.getD []) (fun _ a => a)
    (fun _ t => by cases t <;> rfl) ts [] k).trans ?_
  rw [List.nil_append, get?_flatMap, firstDefined]
  congr 1
  funext t
  cases t with
  | none => rfl
  | some t => exact congrArg (Dict.get? k) (List.map_id t)

/-- nothing is lost, nothing is invented: the keys of the merge are exactly the union of the inputs' keys -/
theorem merge_keys_union (ts : List (Option Table)) (k : Key) :
    k ∈ Dict.keys (mergeTable ts) ↔ ∃ t, some t ∈ ts ∧ k ∈ Dict.keys t := by
  rw [Dict.mem_keys_iff, merge_lookup_first_wins, firstDefined, List.findSome?_isSome_iff]
  constructor
  · rintro ⟨x, hx, hs⟩
    cases x with
    | none => simp at hs
    | some t => exact ⟨t, hx, (Dict.mem_keys_iff _ _).mpr hs⟩
  · rintro ⟨t, ht, hk⟩
    exact ⟨some t, ht, (Dict.mem_keys_iff _ _).mp hk⟩

/-- each key appears once in the merge -/
theorem merge_keys_nodup (ts : List (Option Table)) : (Dict.keys (mergeTable ts)).Nodup := by
  refine List.foldlRecOn (motive := fun acc => (Dict.keys acc).Nodup) ts _ List.nodup_nil fun acc h t _ => ?_
  cases t with
  | none => exact h
  | some t =>
    refine List.foldlRecOn (motive := fun acc => (Dict.keys acc).Nodup) t _ h fun acc h kv _ => ?_
    split
    · exact h
    · exact Dict.nodup_set _ _ _ h

/-- every one of the twelve table parts goes through that first-wins merge (generated dispatch table) -/
theorem all_simple_parts_dispatched : Gen.MergeDispatch.keepArity.map (·.1) = simpleAttrs := rfl

/-- what an attribute of the result is: unset when its guard fails or the union is empty, else the first-wins merge -/
theorem merged_part_eq (skip : List String) (inputs : List Input) (attr : String) (h : attr ∈ simpleAttrs) :
    mergedPart skip inputs attr =
      if guardHolds skip (guardsOf attr) then getNewIfNotEmpty (mergeTable (inputs.map (fun i => part i attr))) else none := by
  rw [← all_simple_parts_dispatched] at h
  exact (mergedPart_eq skip inputs attr).trans (if_pos ((Dict.mem_keys_iff attr _).mp h))

/-- parts named in the skip list are absent (each skippable table part is guarded by exactly its own type) -/
theorem skipped_parts_absent (skip : List String) (inputs : List Input) (attr ty : String)
    (hg : guardsOf attr = [[("not-skipped", [ty])]]) (hs : ty ∈ skip) :
    mergedPart skip inputs attr = none := by
  rw [mergedPart_eq, hg, guardHolds_single_skipped skip ty hs]
  split <;> rfl

/-- the generated guards: sensors and rigs are never skipped, every other table part is guarded by its own type,
  and the tool maps the command-line name of a part to that type -/
theorem generated_guards_shape :
    guardsOf "sensors" = [[]] ∧ guardsOf "rigs" = [[]] ∧
    (∀ attr ∈ simpleAttrs.drop 2, ∃ ty, guardsOf attr = [[("not-skipped", [ty])]] ∧
      Dict.get? attr Gen.MergeDispatch.skipNames = some ty) := by
  obtain ⟨hs, hr, h⟩ := keepGuards_tables
  refine ⟨congrArg (·.getD []) hs, congrArg (·.getD []) hr, fun attr ha => ?_⟩
  obtain ⟨ty, hty⟩ := Option.isSome_iff_exists.mp (h attr ha).2
  refine ⟨ty, ?_, hty⟩
  rw [guardsOf, (h attr ha).1, hty]
  rfl

/-- the reconstruction parts follow the skip list too (guards regenerated from merge_keep_ids): observations are merged exactly
  when neither Points3d nor Observations is skipped, 3-D points exactly when Points3d is not -/
theorem reconstruction_parts_follow_the_skip_list (skip : List String) :
    guardHolds skip (guardsOf "observations") = (!skip.contains "Points3d" && !skip.contains "Observations") ∧
    guardHolds skip (guardsOf "points3d") = !skip.contains "Points3d" := by
  rw [guardsOf_reconstruction.1, guardsOf_reconstruction.2]
  exact ⟨guardHolds_both skip _ _, guardHolds_first skip _ _⟩

/-- a part that is not skipped and is absent from every input stays absent -/
theorem absent_everywhere_absent (skip : List String) (inputs : List Input) (attr : String)
    (h : ∀ i ∈ inputs, part i attr = none) : mergedPart skip inputs attr = none := by
  rw [mergedPart_eq, mergeTable_all_none]
  · split
    · split <;> rfl
    · rfl
  · intro t ht
    obtain ⟨i, hi, rfl⟩ := List.mem_map.mp ht
    exact h i hi

/-- an unskipped part with at least one entry somewhere is present and is the first-wins union -/
theorem present_when_defined (skip : List String) (inputs : List Input) (attr : String) (h : attr ∈ simpleAttrs)
    (hg : guardHolds skip (guardsOf attr) = true) (k : Key) (v : String)
    (hk : firstDefined (inputs.map (fun i => part i attr)) k = some v) :
    ∃ t, mergedPart skip inputs attr = some t ∧ Dict.get? k t = some v := by
  have hv : Dict.get? k (mergeTable (inputs.map (fun i => part i attr))) = some v := by
    rw [merge_lookup_first_wins]; exact hk
  refine ⟨mergeTable (inputs.map (fun i => part i attr)), ?_, hv⟩
  rw [merged_part_eq skip inputs attr h, if_pos hg]
  apply getNewIfNotEmpty_of_ne_nil
  intro he
  rw [he, Dict.get?_nil] at hv
  cases hv

/-- image features: the data file of an image is taken from the first input listing that image under that type -/
theorem feature_file_source (ty name : String) (inputs : List (Option FeatColl)) :
    Dict.get? name (mergeFeatType ty inputs).2 = firstFeatSource ty name inputs := by
  rw [mergeFeatType, get?_insFold₂ (fun s : Nat × FeatSet => s.2.images) (fun s a => (a, s.1)) (fun _ _ => rfl),
    List.nil_append, get?_flatMap, firstFeatSource, findSome?_filterMap]
  congr 1
  funext ci
  obtain ⟨c, i⟩ := ci
  cases c with
  | none => rfl
  | some c =>
    simp only [Option.bind_some]
    cases Dict.get? ty c with
    | none => rfl
    | some s => exact get?_map_const name i s.images

/-- image features: every merged type was in some input, and every input type is merged -/
theorem feature_types_union (inputs : List (Option FeatColl)) (ty : String) :
    ty ∈ featTypes inputs ↔ ∃ c, some c ∈ inputs ∧ ty ∈ Dict.keys c :=
  (mem_typesFold₂ (fun _ c => by cases c <;> rfl) inputs [] ty).trans (or_iff_right List.not_mem_nil)

/-- matches: the file of a pair is taken from the first input listing the pair under that keypoints type -/
theorem match_file_source (ty : String) (p : String × String) (inputs : List (Option MatchColl)) :
    Dict.get? p (mergeMatchType ty inputs) = firstMatchSource ty p inputs := by
  rw [mergeMatchType, get?_insFold₂ (fun ci : Option MatchColl × Nat => (ci.1.bind (Dict.get? ty)).getD [])
    (fun ci a => (a, ci.2)), List.nil_append, get?_flatMap, firstMatchSource]
  · congr 1
    funext ci
    obtain ⟨c, i⟩ := ci
    cases c with
    | none => rfl
    | some c =>
      simp only [Option.bind_some]
      cases Dict.get? ty c with
      | none => rfl
      | some ps => exact get?_map_const p i ps
  · rintro acc ⟨c, i⟩
    cases c with
    | none => rfl
    | some c =>
      show (match Dict.get? ty c with | none => acc | some pairs => _) = ((Dict.get? ty c).getD []).foldl _ acc
      cases Dict.get? ty c <;> rfl

/-- record data: a file name is imported from the first input listing it -/
theorem record_file_source (name : String) (lists : List (List String)) :
    Dict.get? name (mergeRecordFiles lists) = firstFileSource name lists := by
  rw [mergeRecordFiles, get?_insFold₂ (fun li : List String × Nat => li.1) (fun li a => (a, li.2)) (fun _ _ => rfl),
    List.nil_append, get?_flatMap, firstFileSource]
  congr 1
  funext li
  exact get?_map_const name li.2 li.1

-- non-vacuity: two inputs overlapping on one key, the first one missing a part
example : mergeTable [some [(["a"], "1"), (["b"], "2")], none, some [(["b"], "9"), (["c"], "3")]]
    = [(["a"], "1"), (["b"], "2"), (["c"], "3")] := by decide +kernel

end Kapture.C09
