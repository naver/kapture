/-
  Props/C13.lean — property theorems for C13 (COLMAP export then import preserves cameras, poses, features and structure).
  Property theorems ONLY; helper lemmas live in Lemmas/C13.lean.

  PARTIAL: these theorems cover the converter's discrete plumbing and arithmetic core (Model/C13.lean): the camera model
  table, identifier assignment, the GENERATED pair-id arithmetic, the match column swap, the points / tracks text and the
  world pose of rig-mounted cameras.  Every statement is for ALL inputs: any number of images, matches, rows, points and
  observations; the only bound is the one the code has (`MAX_IMAGE_ID`, a hypothesis).  SQLite, text files, numpy blobs
  and float printing are exercised by the export -> import loops of harness/c13.py, not proved.
  The TEXT layer of the reconstruction files (tokens joined by single blanks, tokenised by `[^,\s]+`, image names of
  several words, the two-lines-per-image layout of images.txt) is Model/C13Text.lean and the last theorems of this file.
-/
import Kapture.Lemmas.C13
import Kapture.Lemmas.C13Text
import Kapture.Props.Csv
import Kapture.Props.C05
import Kapture.Props.C06


namespace Kapture.C13
open Kapture.Gen.PairId

/-! ## pair id (generated arithmetic) -/

/-- decoding the pair id of two valid image ids gives the two ids back, smaller first -/
theorem pairId_roundtrip (a b : Int) (ha : 0 ≤ a) (hb : 0 ≤ b) (ha' : a < maxImageId) (hb' : b < maxImageId) :
    ofPairId (toPairId a b) = (min a b, max a b) := by
  rw [toPairId_eq, ofPairId_encode (by omega) (Int.max_lt.2 ⟨ha', hb'⟩)]

/-- the pair id does not depend on the order of the two ids -/
theorem pairId_symmetric (a b : Int) : toPairId a b = toPairId b a := by
  rw [toPairId_eq, toPairId_eq, Int.min_comm, Int.max_comm]

/-- two unordered pairs of valid ids with the same pair id are the same pair: no two image pairs share a row key -/
theorem pairId_injective (a b c d : Int) (ha : 0 ≤ a) (hb : 0 ≤ b) (hc : 0 ≤ c) (hd : 0 ≤ d)
    (ha' : a < maxImageId) (hb' : b < maxImageId) (hc' : c < maxImageId) (hd' : d < maxImageId)
    (h : toPairId a b = toPairId c d) : (min a b, max a b) = (min c d, max c d) := by
  rw [← pairId_roundtrip a b ha hb ha' hb', ← pairId_roundtrip c d hc hd hc' hd', h]

/-! ## image identifiers -/

/-- images with distinct names get distinct identifiers 1..n, whatever the order of the records -/
theorem image_ids_distinct (records : List Record) (h : (records.map (fun r => r.2.2)).Nodup) :
    NamesNodup (imageIds records) ∧ IdsNodup (imageIds records) ∧
    ∀ e ∈ imageIds records, 1 ≤ e.2 ∧ e.2 ≤ records.length := by
  refine ⟨assignIds_namesNodup _ ((imageOrder_perm records).nodup_iff.2 h), assignIds_idsNodup _, ?_⟩
  rw [← imageOrder_length records]
  exact assignIds_bounds _

/-- every image gets an identifier, and name -> id -> name is the identity (what the import relies on to name the
  keypoints, descriptors, matches and observations it reads) -/
theorem image_name_id_name (records : List Record) (r : Record) (hr : r ∈ records) :
    ∃ i, idOf? (imageIds records) r.2.2 = some i ∧ nameOf? (imageIds records) i = some r.2.2 := by
  apply exists_id (assignIds_idsNodup _)
  rw [assignIds_names, (imageOrder_perm records).mem_iff]
  exact List.mem_map_of_mem hr

/-- id -> name -> id is the identity for images with distinct names -/
theorem image_id_name_id (records : List Record) (h : (records.map (fun r => r.2.2)).Nodup) (i : Int) (n : String)
    (hn : nameOf? (imageIds records) i = some n) : idOf? (imageIds records) n = some i :=
  idOf?_nameOf? (image_ids_distinct records h).1 hn

/-! ## matches -/

/-- swapping the two index columns twice is the identity, for every list of index pairs -/
theorem swap_twice (rows : MatchRows) : swapCols (swapCols rows) = rows := by
  unfold swapCols
  rw [List.map_map]
  exact List.map_id _

/-- one pair of images: the rows written to the database (columns swapped when the id order differs from the name
  order) and read back (columns swapped when the name order differs from the id order) are the rows of the pair, under
  the same pair of names — for ANY table of distinct in-range identifiers, any rows -/
theorem match_loop_any_ids (ids : List (String × Int)) (hn : IdsNodup ids) (hr : IdsInRange ids)
    (a b : String) (hab : a < b) (rows : MatchRows) (ia ib : Int)
    (ha : idOf? ids a = some ia) (hb : idOf? ids b = some ib) :
    (exportMatch ids ((a, b), rows)).bind (importMatch ids) = some ((a, b), rows) := by
  have hne : a ≠ b := String.ne_of_lt hab
  have hine : ia ≠ ib := fun e => hne (idOf?_injective hn ha (e ▸ hb))
  have hna := nameOf?_idOf? hn ha
  have hnb := nameOf?_idOf? hn hb
  have hra := hr _ (mem_of_idOf? ha)
  have hrb := hr _ (mem_of_idOf? hb)
  simp only [exportMatch, ha, hb, Option.bind_some, addMatches, importMatch,
    pairId_roundtrip ia ib hra.1 hrb.1 hra.2 hrb.2]
  -- the ids are in the order of the names, or the rows are swapped on the way out and on the way back
  rcases Int.lt_or_gt_of_ne hine with hlt | hgt
  · rw [Int.min_eq_left (Int.le_of_lt hlt), Int.max_eq_right (Int.le_of_lt hlt), if_neg (Int.not_lt.2 (Int.le_of_lt hlt))]
    simp only [hna, hnb, lexicalOrder_of_lt hab, ne_eq, not_true, if_false]
  · rw [Int.min_eq_right (Int.le_of_lt hgt), Int.max_eq_left (Int.le_of_lt hgt), if_pos hgt]
    simp only [hnb, hna, lexicalOrder_of_gt hab, swap_twice]
    rw [if_pos (fun e => hne (Prod.mk.inj e).2)]

/-- the same for the identifiers the export assigns: any records with fewer than MAX_IMAGE_ID images, any two of them
  in lexical order (kapture's normal form of a pair), any rows -/
theorem match_loop (records : List Record) (hlen : (records.length : Int) < maxImageId)
    (ra rb : Record) (ha : ra ∈ records) (hb : rb ∈ records) (hab : ra.2.2 < rb.2.2) (rows : MatchRows) :
    (exportMatch (imageIds records) ((ra.2.2, rb.2.2), rows)).bind (importMatch (imageIds records))
      = some ((ra.2.2, rb.2.2), rows) := by
  obtain ⟨ia, hia, _⟩ := image_name_id_name records ra ha
  obtain ⟨ib, hib, _⟩ := image_name_id_name records rb hb
  have hrange : IdsInRange (imageIds records) := assignIds_inRange _ (by rw [imageOrder_length]; exact hlen)
  exact match_loop_any_ids _ (assignIds_idsNodup _) hrange _ _ hab rows ia ib hia hib

/-- all matches of a dataset: exporting then importing gives back the same list of (pair, rows) -/
theorem matches_loop (records : List Record) (hlen : (records.length : Int) < maxImageId)
    (ms : List ((String × String) × MatchRows))
    (h : ∀ m ∈ ms, m.1.1 < m.1.2 ∧ (∃ r ∈ records, r.2.2 = m.1.1) ∧ (∃ r ∈ records, r.2.2 = m.1.2)) :
    importMatches (imageIds records) (exportMatches (imageIds records) ms) = ms := by
  refine filterMap_filterMap_of_bind _ _ ms (fun m hm => ?_)
  obtain ⟨⟨a, b⟩, rows⟩ := m
  obtain ⟨hlt, ⟨ra, hra, rfl⟩, ⟨rb, hrb, rfl⟩⟩ := h _ hm
  exact match_loop records hlen ra rb hra hrb hlt rows

/-! ## cameras -/

/-- the camera model table is a bijection between names and ids on every entry, with its parameter count -/
theorem camera_table_lookup : ∀ e ∈ cameraModels,
    modelId? e.1 = some e.2.1 ∧ modelName? e.2.1 = some e.1 ∧ paramCount? e.1 = some e.2.2 :=
  table_lookup cameraModels_wf.1 cameraModels_wf.2.1

/-- a camera of any model COLMAP knows, with any image size and any parameters, comes back with the same model name and
  the same parameters; the number of parameters written is the model's count -/
theorem camera_loop : ∀ e ∈ cameraModels, ∀ (w h : String) (params : List String), params.length = e.2.2 →
    ∃ c, exportCamera { model := e.1, params := w :: h :: params } = Except.ok c ∧
      c.modelId = e.2.1 ∧ c.params = params ∧ paramCount? e.1 = some c.params.length ∧
      importCamera c = { model := e.1, params := w :: h :: params } := by
  intro e he w h params hlen
  obtain ⟨h1, h2, h3⟩ := camera_table_lookup e he
  have hu : e.1 ≠ "UNKNOWN_CAMERA" := fun hu => cameraModels_wf.2.2 (hu ▸ List.mem_map_of_mem he)
  refine ⟨{ modelId := e.2.1, width := w, height := h, params := params }, ?_, rfl, rfl, ?_, ?_⟩
  · simp [exportCamera, hu, h1]
  · rw [h3, hlen]
  · simp [importCamera, h2]

/-- cameras (sensors with distinct identifiers) get distinct colmap camera ids and sensor -> id -> sensor is the
  identity: every image finds the camera of its sensor again -/
theorem camera_ids_loop (sensorIds : List String) (s : String) (hs : s ∈ sensorIds) :
    ∃ i, idOf? (cameraIds sensorIds) s = some i ∧ nameOf? (cameraIds sensorIds) i = some s :=
  exists_id (assignIds_idsNodup _) (by rw [cameraIds, assignIds_names]; exact hs)

/-! ## points and tracks -/

/-- the (coordinates, image name, feature index) relation survives ANY renumbering of images by distinct identifiers:
  points come back in the same order with the same coordinates (and colour, black for colour-less points), every track
  with the same image names and feature indices; the written point ids are 0, 1, 2, ... (so re-indexing the lines by
  position on import changes nothing).  Hypothesis: observed images are registered and have a pose (an image without
  pose has no line in images.txt, see `track_of_unposed_image_is_unknown`). -/
theorem points_tracks_loop (ids : List (String × Int)) (hn : IdsNodup ids) (posed : List String)
    (pts : List (Row × List (String × Nat)))
    (h : ∀ p ∈ pts, ∀ o ∈ p.2, o.1 ∈ posed ∧ ∃ i, idOf? ids o.1 = some i) :
    ∃ lines, exportPoints ids pts = some lines ∧
      importPoints (posedIds ids posed) lines = pts.map (fun p => (canon6 p.1, p.2)) ∧
      lines.map (fun l => l.id) = List.range pts.length := by
  rw [List.range_eq_range']
  exact exportPointsFrom_loop hn posed pts 0 h

/-- the same for the identifiers the export assigns to the images of any records -/
theorem points_tracks_loop_images (records : List Record) (posed : List String)
    (pts : List (Row × List (String × Nat)))
    (h : ∀ p ∈ pts, ∀ o ∈ p.2, o.1 ∈ posed ∧ ∃ r ∈ records, r.2.2 = o.1) :
    ∃ lines, exportPoints (imageIds records) pts = some lines ∧
      importPoints (posedIds (imageIds records) posed) lines = pts.map (fun p => (canon6 p.1, p.2)) ∧
      lines.map (fun l => l.id) = List.range pts.length := by
  apply points_tracks_loop _ (assignIds_idsNodup _)
  intro p hp o ho
  obtain ⟨h1, r, hr, e⟩ := h p hp o ho
  obtain ⟨i, hi, _⟩ := image_name_id_name records r hr
  exact ⟨h1, i, e ▸ hi⟩

/-- coordinates are kept for 3- and 6-column points alike, and a coloured point is kept entirely -/
theorem point_coordinates_preserved (row : Row) (h : 3 ≤ row.length) :
    (canon6 row).take 3 = row.take 3 ∧ (row.length = 6 → canon6 row = row) := by
  unfold canon6
  refine ⟨?_, fun h6 => ?_⟩
  · rw [List.take_append_of_le_length (by rw [List.length_take]; omega), List.take_take, Nat.min_self]
  · rw [if_pos h6, List.take_append_drop]

/-- boundary of the statement: an observation by a registered image WITHOUT pose is read back under the name 'unknown'
  (import_colmap.py:149-150 builds the id -> name table from images.txt only) -/
theorem track_of_unposed_image_is_unknown (ids : List (String × Int)) (hn : IdsNodup ids) (posed : List String)
    (n : String) (i : Int) (hi : idOf? ids n = some i) (hp : n ∉ posed) (k : Nat) :
    (importPoint (posedIds ids posed) { id := 0, xyz := [], rgb := [], track := [(i, k)] }).2 = [("unknown", k)] := by
  have hnone : nameOf? (posedIds ids posed) i = none := Option.eq_none_iff_forall_ne_some.2 fun m hq => by
    -- the only name of `i` in `ids` is `n`, which the filter removed
    obtain ⟨hm, hmp⟩ := mem_posedIds.1 (mem_of_nameOf? hq)
    cases (nameOf?_of_mem hn hm).symm.trans (nameOf?_idOf? hn hi)
    exact hp hmp
  simp [importPoint, hnone]

/-! ## rig-mounted cameras -/

section rigs
open Kapture.C05 Kapture.C06 Kapture.Gen.RotMat
variable {K : Type} [Field K] [DecidableEq K]

/-- a camera mounted on a rig that has a pose comes out at `camera_from_rig ∘ rig_from_world`: as a pose
  (`compose2`), and as the map on points it denotes (world point -> rig frame -> camera frame) -/
theorem rig_camera_world_pose (rigs : Rigs (Pose K)) (traj : Traj K) (e : Entry (Pose K)) (he : e ∈ traj)
    (members : List (String × Pose K)) (hm : membersOf rigs e.dev = some members)
    (cam : String) (camFromRig : Pose K) (hc : (cam, camFromRig) ∈ members) (hcam : ¬ isRig rigs cam)
    (hd : DepthLE rigs 10 e.dev) :
    ∃ e' ∈ exportTrajectory rigs traj, e'.ts = e.ts ∧ e'.dev = cam ∧ e'.g = compose2 camFromRig e.g ∧
      (qnorm camFromRig.r ≠ 0 → qnorm e.g.r ≠ 0 →
        ∀ x, transform e'.g x = transform camFromRig (transform e.g x)) := by
  have hmount : Mounted compose2 rigs (e.dev, e.g) (cam, compose2 camFromRig e.g) :=
    Mounted.step e.dev e.g members cam camFromRig cam _ hm hc (Mounted.here _ _)
  obtain ⟨e', he', h1, h2, h3⟩ := remove_complete compose2 rigs 10 traj e cam _ he hd hmount hcam
  refine ⟨e', he', h1, h2, h3, ?_⟩
  intro hq1 hq2 x
  rw [h3]
  exact transform_compose2 camFromRig e.g x hq1 hq2

/-- rigs of any shape (rigs mounted on rigs, within the pass budget of the code): every camera below a posed rig gets
  exactly the pose implied by the chain of mountings -/
theorem nested_rig_camera_world_pose (rigs : Rigs (Pose K)) (traj : Traj K) (e : Entry (Pose K)) (he : e ∈ traj)
    (cam : String) (g : Pose K) (hmount : Mounted compose2 rigs (e.dev, e.g) (cam, g)) (hcam : ¬ isRig rigs cam)
    (hd : DepthLE rigs 10 e.dev) :
    ∃ e' ∈ exportTrajectory rigs traj, e'.ts = e.ts ∧ e'.dev = cam ∧ e'.g = g :=
  remove_complete compose2 rigs 10 traj e cam g he hd hmount hcam

/-- a camera posed directly keeps its pose, and nothing but implied poses is written -/
theorem free_camera_pose_kept (rigs : Rigs (Pose K)) (traj : Traj K) (e : Entry (Pose K)) (he : e ∈ traj)
    (hf : ¬ isRig rigs e.dev) : e ∈ exportTrajectory rigs traj :=
  remove_keeps_free_entries compose2 rigs 10 traj e he hf

/-- the pose written to images.txt for the image of a rig-mounted camera is that world pose, when no other source
  poses the same camera at the same timestamp (the property's reading of "the pose of an image") -/
theorem rig_camera_pose_written (rigs : Rigs (Pose K)) (traj : Traj K) (e : Entry (Pose K)) (he : e ∈ traj)
    (members : List (String × Pose K)) (hm : membersOf rigs e.dev = some members)
    (cam : String) (camFromRig : Pose K) (hc : (cam, camFromRig) ∈ members) (hcam : ¬ isRig rigs cam)
    (hd : DepthLE rigs 10 e.dev)
    (huniq : ∀ e1 ∈ exportTrajectory rigs traj, e1.ts = e.ts → e1.dev = cam → e1.g = compose2 camFromRig e.g) :
    poseOf? (exportTrajectory rigs traj) e.ts cam = some (compose2 camFromRig e.g) := by
  obtain ⟨e', he', h1, h2, _⟩ := rig_camera_world_pose rigs traj e he members hm cam camFromRig hc hcam hd
  exact poseOf?_of_mem_unique huniq ⟨e', he', h1, h2⟩

end rigs

/-! ## non-vacuity -/

-- ids in non-lexical order: "b.jpg" is image 1, "a.jpg" image 2; the pair (a, b) is stored under ids (1, 2) with
-- swapped columns and comes back as written
example : imageIds [(5, "cam", "a.jpg"), (2, "cam", "b.jpg")] = [("b.jpg", 1), ("a.jpg", 2)] := rfl
example : exportMatch [("b.jpg", 1), ("a.jpg", 2)] (("a.jpg", "b.jpg"), [(0, 7), (3, 4)])
    = some (1 * maxImageId + 2, [(7, 0), (4, 3)]) := rfl
example : importMatch [("b.jpg", 1), ("a.jpg", 2)] (1 * maxImageId + 2, [(7, 0), (4, 3)])
    = some (("a.jpg", "b.jpg"), [(0, 7), (3, 4)]) := rfl
example : ofPairId (toPairId 7 3) = (3, 7) := rfl
example : (exportCamera ⟨"OPENCV", ["640", "480", "a", "b", "c", "d", "e", "f", "g", "h"]⟩).toOption.map importCamera
    = some ⟨"OPENCV", ["640", "480", "a", "b", "c", "d", "e", "f", "g", "h"]⟩ := rfl
example : (exportPoints [("b.jpg", 1), ("a.jpg", 2)] [(["x", "y", "z"], [("a.jpg", 4)])]).map
    (importPoints (posedIds [("b.jpg", 1), ("a.jpg", 2)] ["a.jpg"]))
    = some [(["x", "y", "z", zeroTok, zeroTok, zeroTok], [("a.jpg", 4)])] := rfl

end Kapture.C13

namespace Kapture.C13Text
open Kapture.Csv

/-- TEXT LAYER, one line: any list of tokens (non-empty, without comma or blank) written with single blanks between them is
  tokenised back to itself by the importer's `re.findall(r'[^,\s]+', line)` — this covers every line of cameras.txt and
  points3D.txt -/
theorem line_tokens_roundtrip (fields : List Str) (h : ∀ f ∈ fields, TokenOK f) : tokens (spaceJoin fields) = fields := by
  cases fields with
  | nil => rfl
  | cons p t =>
    -- on such a line the tokeniser splits at the blanks only, and no piece is empty
    unfold tokens
    rw [splitSep_eq_splitOnChar _ (sep_of_mem_spaceJoin h), spaceJoin,
      splitOnChar_joinWith ' ' _ (List.cons_ne_nil _ _) (fun q hq hm => by cases (h q hq).2 _ hm),
      List.filter_eq_self]
    exact fun q hq => by rw [List.isEmpty_eq_false_iff.2 (h q hq).1, Bool.not_false]

/-- TEXT LAYER, points3D.txt: the line of a point is tokenised to its fields: id, coordinates, colour, the error field, then
  the (image id, feature index) pairs of the track in order -/
theorem point_line_tokens (i : Nat) (xyz rgb : List Str) (track : List (Int × Int))
    (h : ∀ f ∈ xyz ++ rgb, TokenOK f) :
    tokens (pointLine i xyz rgb track) =
      [showInt (Int.ofNat i)] ++ xyz ++ rgb ++ [['0']] ++ track.flatMap (fun p => [showInt p.1, showInt p.2]) := by
  apply line_tokens_roundtrip
  rw [List.forall_mem_append] at h
  simp only [List.forall_mem_append, List.forall_mem_cons, List.not_mem_nil, false_imp_iff, implies_true, and_true,
    List.forall_mem_flatMap]
  exact ⟨⟨⟨⟨tokenOK_showInt _, h.1⟩, h.2⟩, List.cons_ne_nil _ _, by decide⟩, fun p _ => ⟨tokenOK_showInt _, tokenOK_showInt _⟩⟩

/-- TEXT LAYER, cameras.txt -/
theorem camera_line_tokens (id : Int) (model w h : Str) (params : List Str)
    (hm : TokenOK model) (hw : TokenOK w) (hh : TokenOK h) (hp : ∀ f ∈ params, TokenOK f) :
    tokens (cameraLine id model w h params) = [showInt id, model, w, h] ++ params := by
  apply line_tokens_roundtrip
  simp only [List.forall_mem_append, List.forall_mem_cons, List.not_mem_nil, false_imp_iff, implies_true, and_true]
  exact ⟨⟨tokenOK_showInt id, hm, hw, hh⟩, hp⟩

/-- TEXT LAYER, images.txt, one image: identifier, the seven pose tokens, camera identifier and the NAME come back — a name of
  several words separated by single blanks included (`' '.join(fields[9:])`) -/
theorem image_line_roundtrip (id cam : Int) (pose : List Str) (name : Str)
    (hp : pose.length = 7) (hpt : ∀ f ∈ pose, TokenOK f) (hn : NameOK name) :
    decodeImageLine (imageLine id pose cam name) = some (id, pose, cam, name) := by
  obtain ⟨words, hw, hwt, rfl⟩ := hn
  have htok := imageLine_tokens id cam hpt hwt
  apply decodeImageLine_of_tokens hp _ (readInt_showInt id) (readInt_showInt cam)
  rw [imageLine_spaceJoin hw, rstrip_spaceJoin htok, line_tokens_roundtrip _ htok]

/-- TEXT LAYER, images.txt, the whole file: the first pass of the importer over the file the exporter writes finds exactly the
  posed images, in order, each with its identifier, pose tokens, camera and name — for any number of images, with or without
  a POINTS2D line (an image without keypoints has an EMPTY second line, which keeps the parity of the lines) -/
theorem images_first_pass (n : Nat) (es : List ImageEntry)
    (h : ∀ e ∈ es, e.pose.length = 7 ∧ (∀ f ∈ e.pose, TokenOK f) ∧ NameOK e.name ∧
      ∀ p ∈ e.p2d, TokenOK p.1 ∧ TokenOK p.2.1 ∧ TokenOK p.2.2 ∧ p.1.head? ≠ some '#') :
    imagesFirstPass (imagesTxt n es) = es.map (fun e => some (e.id, e.pose, e.cam, e.name)) := by
  have hfirst := firstLines_unlines (imagesHeaderLines n) (fun e : ImageEntry => imageLine e.id e.pose e.cam e.name)
    (fun e => points2dLine e.p2d) es (imagesHeaderLines_comment n) (fun e he =>
      ⟨dataLine_imageLine e.id e.cam (h e he).2.1 (h e he).2.2.1, dataLine_points2dLine (h e he).2.2.2⟩)
  unfold imagesFirstPass imagesTxt
  rw [hfirst, List.map_map, Function.comp_def]
  exact List.map_congr_left (fun e he => image_line_roundtrip e.id e.cam e.pose e.name (h e he).1 (h e he).2.1 (h e he).2.2.1)

-- non-vacuity: a name of two words, an image without keypoints followed by one with keypoints
example : imagesFirstPass (imagesTxt 2
    [{ id := 1, pose := ["1.0", "0.0", "0.0", "0.0", "0.5", "-2.0", "1e-07"].map String.toList, cam := 1, name := "seq a/img 1.jpg".toList, p2d := [] },
     { id := 2, pose := ["1.0", "0.0", "0.0", "0.0", "0.5", "-2.0", "3.0"].map String.toList, cam := 1, name := "b.jpg".toList,
       p2d := [("1.5".toList, "2.5".toList, "-1".toList)] }])
    = [some (1, ["1.0", "0.0", "0.0", "0.0", "0.5", "-2.0", "1e-07"].map String.toList, 1, "seq a/img 1.jpg".toList),
       some (2, ["1.0", "0.0", "0.0", "0.0", "0.5", "-2.0", "3.0"].map String.toList, 1, "b.jpg".toList)] := by
  unfold imagesTxt imagesHeaderLines
  repeat rw [String.toList_ofList]  -- see Props/Csv.lean
  decide +kernel

end Kapture.C13Text
