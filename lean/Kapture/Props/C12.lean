/-
  Props/C12.lean — property theorems for C12 (a tar-packed feature store equals its directory form; appends are durable).
  Property theorems ONLY.  For ANY archive (any names, any blobs, any number of overwrites) and ANY kill point k.
-/
import Kapture.Lemmas.C12
import Kapture.Gen.IoShapes

namespace Kapture.C12

/-- an appended array is visible, complete and the latest version under its name; other names are unaffected -/
theorem append_visible (a : Archive) (n : String) (b : Blob) :
    read (a ++ [(n, b)]) n = some b ∧ ∀ m, m ≠ n → read (a ++ [(n, b)]) m = read a m :=
  ⟨(read_append_single a (n, b) n).trans (if_pos rfl),
    fun m hm => (read_append_single a (n, b) m).trans (if_neg fun h => hm h.symm)⟩

/-- reading the archive and reading its directory form agree on every name -/
theorem read_eq_dir (a : Archive) (n : String) : read a n = Dict.get? n (toDir a) := by
  rw [read_eq_get?_reverse]
  exact (Dict.get?_ofList n a).symm

/-- packing a folder (one file per name) changes nothing observable: same names, same bytes under each name -/
theorem pack_equals_dir (files : List (String × Blob)) (h : (files.map (·.1)).Nodup) :
    (∀ n, read (pack files) n = Dict.get? n files) ∧ (∀ n, n ∈ names (pack files) ↔ n ∈ files.map (·.1)) := by
  -- a folder with one file per name is its own directory form
  have hdir : toDir (pack files) = files := Dict.ofList_of_nodup files h
  refine ⟨fun n => by rw [read_eq_dir, hdir], fun n => ?_⟩
  rw [names, hdir]
  rfl

/-- durability: after a kill following the k-th completed append, a reader sees every one of those k appends as the
  latest version under its name (unless a LATER completed append overwrote it) -/
theorem crash_prefix_visible (a : Archive) (k i : Nat) (n : String) (b : Blob) (hk : k ≤ a.length) (hi : i < k)
    (he : a[i]? = some (n, b)) (hl : ∀ j e, i < j → j < k → a[j]? = some e → e.1 ≠ n) :
    read (crashAfter k a) n = some b := by
  unfold crashAfter
  induction k with
  | zero => cases hi
  | succ k ih =>
    have hlt : k < a.length := hk
    have hak := List.getElem?_eq_getElem hlt
    rw [List.take_succ_eq_append_getElem hlt, read_append_single]
    by_cases hik : i = k
    · rw [hik, hak] at he
      rw [Option.some.inj he]
      exact if_pos rfl
    · have hik' : i < k := Nat.lt_of_le_of_ne (Nat.le_of_lt_succ hi) hik
      rw [if_neg (hl k a[k] hik' (Nat.lt_succ_self k) hak)]
      exact ih (Nat.le_of_lt hlt) hik' fun j e h1 h2 => hl j e h1 (Nat.lt_succ_of_lt h2)

/-- ... and sees nothing of the appends that had not completed -/
theorem crash_prefix_only (a : Archive) (k : Nat) (n : String) (b : Blob) (h : read (crashAfter k a) n = some b) :
    ∃ i, i < k ∧ a[i]? = some (n, b) := by
  obtain ⟨i, hi, he⟩ := List.mem_take_iff_getElem.1 (read_some_mem h)
  exact ⟨i, Nat.lt_of_lt_of_le hi (Nat.min_le_left _ _), he ▸ List.getElem?_eq_getElem _⟩

/-- the file grows by exactly one header block plus the padded data per append, and member i starts where the
  first i members end -/
theorem length_law (a : Archive) (n : String) (b : Blob) :
    lengthBytes (a ++ [(n, b)]) = lengthBytes a + 512 + roundUp512 b.length ∧
    lengthBytes a % 512 = 0 ∧ b.length ≤ roundUp512 b.length ∧ roundUp512 b.length < b.length + 512 := by
  refine ⟨?_, lengthBytes_mod a, roundUp512_bounds b.length⟩
  rw [lengthBytes_append, lengthBytes_cons]
  show _ + (_ + 0) = _  -- the `0` is `lengthBytes []`, the rest of the one-member archive
  rw [Nat.add_zero, Nat.add_assoc]

theorem length_monotone (a : Archive) (k : Nat) : lengthBytes (crashAfter k a) ≤ lengthBytes a := by
  have h := lengthBytes_append (a.take k) (a.drop k)
  rw [List.take_append_drop] at h
  exact Nat.le.intro h.symm

-- non-vacuity: an overwrite followed by a kill
example : read (crashAfter 2 [("a.kpt", [1]), ("a.kpt", [2, 3]), ("b.kpt", [9])]) "a.kpt" = some [2, 3] := by decide
example : lengthBytes [("a.kpt", [1]), ("a.kpt", [2, 3])] = 512 + 512 + 512 + 512 := by decide

/-- the append-log model's assumptions about TarHandler are what the translator reads in the source on every run
  (Gen/IoShapes.lean): an append is exactly "little-endian bytes, addfile, flush, re-index", flush() hands the bytes to the
  operating system (`fileobj.flush()`), and a reader's index keeps the LAST member of a name -/
theorem tar_code_is_the_model :
    Gen.IoShapes.tarAppendIsAddfileThenFlush = true ∧ Gen.IoShapes.tarFlush = "self.fid.fileobj.flush()" ∧
    Gen.IoShapes.tarIndexLastWins = true :=
  ⟨rfl, rfl, rfl⟩

/-- ARCHIVES WITH LINK MEMBERS (a folder that went through hard-link de-duplication, packed by `tar`): on an archive without
  links the reader that resolves links is the reader of the append log, so everything above carries over -/
theorem link_free_archive_reads_as_before (a : Archive) (n : String) : readL (plain a) n = read a n := by
  unfold readL findLatest plain
  rw [List.take_length, ← List.map_reverse]
  exact bind_findLatestRev_plain _ _ a.reverse n

/-- a second name of an inode reads as the first: a hard-link member appended to ANY archive without symbolic links reads back,
  under its own name, exactly what the name it points to reads back (the bytes, or nothing when that name resolves to nothing) -/
theorem second_name_reads_as_the_first (a : LArchive) (hns : NoSym a) (n t : String) :
    readL (a ++ [(n, Member.hard t)]) n = readL a t := hard_link_reads_its_target a hns n t

/-- ... and it changes nothing that was readable under another name -/
theorem link_member_leaves_other_names (a : LArchive) (hns : NoSym a) (n t n' : String) (b : Blob) (hne : (n == n') = false)
    (h : readL a n' = some b) : readL (a ++ [(n, Member.hard t)]) n' = some b :=
  append_leaves_other_names a hns (n, Member.hard t) n' b hne h

-- non-vacuity: two images sharing one inode, then a third file; the link reads the data, a link to a missing name reads nothing
example : readL [("a.kpt", Member.data [1, 2]), ("b.kpt", Member.hard "a.kpt"), ("c.kpt", Member.data [3])] "b.kpt" = some [1, 2] ∧
    readL [("b.kpt", Member.hard "a.kpt"), ("a.kpt", Member.data [1, 2])] "b.kpt" = none ∧
    readL [("a.kpt", Member.data [1]), ("l", Member.sym "l")] "l" = none := by decide

/-- A DE-DUPLICATED FOLDER PACKED BY `tar` READS AS THE FOLDER: files that share an inode are stored once and as hard links, and
  every name reads back the content of its inode — for any number of files, any sharing pattern -/
theorem dedup_pack_reads_as_dir (content : Nat → Blob) (files : List (String × Nat)) (hn : (files.map (·.1)).Nodup) :
    ∀ f ∈ files, readL (packInodes content files) f.1 = some (content f.2) :=
  (pack_fold_inv content files ([], []) [] ⟨List.forall_mem_nil _, List.forall_mem_nil _, List.forall_mem_nil _⟩ hn).reads

-- non-vacuity: three files, the first two sharing an inode: stored once and as a hard link; every name reads its inode's content
example : packInodes (fun i => [i, i]) [("a.kpt", 7), ("b.kpt", 7), ("c.kpt", 9)] =
      [("a.kpt", Member.data [7, 7]), ("b.kpt", Member.hard "a.kpt"), ("c.kpt", Member.data [9, 9])] ∧
    readL (packInodes (fun i => [i, i]) [("a.kpt", 7), ("b.kpt", 7), ("c.kpt", 9)]) "b.kpt" = some [7, 7] := by decide

end Kapture.C12
