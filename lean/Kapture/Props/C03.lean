/-
  Props/C03.lean — property theorems for C03 (feature, match and depth arrays persist bit-exactly as raw little-endian dumps).
  Property theorems ONLY.  For EVERY item size >= 1, every number of rows (including 0) and columns >= 1, every bit pattern.
-/
import Kapture.Lemmas.C03
import Kapture.Gen.IoShapes

namespace Kapture.C03

/-- the file has no header: its size is rows x columns x item size -/
theorem file_size (a : Arr) (h : a.bits.length = a.rows * a.cols) :
    (toFile a).length = a.rows * a.cols * a.item := by
  rw [toFile, length_encode, h]

/-- little-endian, row-major: byte k of element i is bits (8k .. 8k+7) of that element -/
theorem file_is_little_endian_dump (item : Nat) (elems : List Nat) (i k : Nat) (v : Nat)
    (hi : elems[i]? = some v) (hk : k < item) :
    (encode item elems)[i * item + k]? = some ((v / 256 ^ k) % 256) := by
  induction elems generalizing i with
  | nil => cases hi
  | cons w ws ih =>
    have hlen := length_encodeElem item w
    rw [encode_cons]
    cases i with
    | zero =>
      cases hi
      rw [Nat.zero_mul, Nat.zero_add, List.getElem?_append_left (hlen.symm ▸ hk)]
      exact getElem?_encodeElem item v k hk
    | succ j =>
      have hidx : (j + 1) * item + k = (encodeElem item w).length + (j * item + k) := by
        rw [hlen, Nat.succ_mul, Nat.add_comm (j * item), Nat.add_assoc]
      rw [hidx, List.getElem?_append_right (Nat.le_add_right _ _), Nat.add_sub_cancel_left]
      exact ih j hi

/-- reading back what was written gives the same bits, for every element type size and every size incl. zero rows -/
theorem decode_encode (item : Nat) (elems : List Nat) (hi : 0 < item) (hf : Fits item elems) :
    decode item (encode item elems) = some elems :=
  (decode_encode_mod item hi elems).trans
    (congrArg some ((List.map_congr_left fun v hv => Nat.mod_eq_of_lt (hf v hv)).trans (List.map_id _)))

/-- ... with the same shape -/
theorem fromFile_toFile (a : Arr) (hi : 0 < a.item) (hc : 0 < a.cols) (hs : a.bits.length = a.rows * a.cols)
    (hf : Fits a.item a.bits) :
    fromFile a.item a.cols (toFile a) = some a := by
  simp only [fromFile, toFile, decode_encode a.item a.bits hi hf, hs, reshapeRows_mul a.rows a.cols hc]

/-- the image name is recovered from the file location (listing a feature folder, or a tar) -/
theorem image_of_feature_path (root dir ty image ext : Str) :
    imageOfRelative (relativeOf root dir ty (featurePath root dir ty image ext)) ext = image ∧
    imageOfRelative (tarMember image ext) ext = image := by
  have hrel : relativeOf root dir ty (featurePath root dir ty image ext) = image ++ ext := by
    unfold relativeOf featurePath
    rw [List.append_assoc _ image ext]
    exact List.drop_left' rfl
  exact ⟨by rw [hrel]; exact take_length_sub image ext, take_length_sub image ext⟩

/-- distinct images (of one type) never share a file -/
theorem feature_path_injective (root dir ty ext i₁ i₂ : Str)
    (h : featurePath root dir ty i₁ ext = featurePath root dir ty i₂ ext) : i₁ = i₂ := by
  unfold featurePath at h
  exact List.append_cancel_left (List.append_cancel_right h)

/-- the pair of image names is recovered from the location of a matches file, when no name contains the separator
  and the separator has no border (true of the generated `.overlapping/`, see `separator_border_free`) -/
theorem pair_of_match_path (a b sep ext : Str) (hs : sep ≠ [])
    (hb : ∀ k, 0 < k → k < (sep ++ sl).length → (sep ++ sl).take k ≠ (sep ++ sl).drop ((sep ++ sl).length - k))
    (ha : Free (sep ++ sl) a) (hbb : Free (sep ++ sl) b)
    (hab : ∀ k, 0 < k → k < (sep ++ sl).length → ¬ ((sep ++ sl).take k).isSuffixOf a)
    (hba : ∀ k, 0 < k → k < (sep ++ sl).length → ¬ ((sep ++ sl).drop k).isPrefixOf b) :
    pairOfRelative (matchRelative a b sep ext) sep ext = some (a, b) := by
  -- `hs`, `hb`, `hba` are not needed: `ha`, `hbb`, `hab` alone determine the split
  have _ := hs; have _ := hb; have _ := hba
  have hp : sep ++ sl ≠ [] := List.append_ne_nil_of_right_ne_nil _ (List.cons_ne_nil _ _)
  have hfuel : (a ++ (sep ++ sl) ++ b).length ≠ 0 :=
    mt List.eq_nil_of_length_eq_zero (List.append_ne_nil_of_left_ne_nil (List.append_ne_nil_of_right_ne_nil a hp) b)
  have hrel : matchRelative a b sep ext = (a ++ (sep ++ sl) ++ b) ++ ext := by
    simp only [matchRelative, List.append_assoc]
  simp only [pairOfRelative, hrel, take_length_sub, splitOn_pair (sep ++ sl) a b hp ha hbb hab _ hfuel]

/-- the generated separator followed by '/' has no border: no proper prefix is also a suffix -/
theorem separator_border_free :
    let p := Gen.FileNames.pairSeparator.toList ++ sl
    ∀ k, 0 < k → k < p.length → p.take k ≠ p.drop (p.length - k) := by
  rw [Gen.FileNames.pairSeparator, String.toList_ofList]  -- see Props/Csv.lean
  intro p
  have key : ∀ k, k < p.length → 0 < k → p.take k ≠ p.drop (p.length - k) := by decide
  exact fun k hk0 hk => key k hk hk0

/-- code and specification agree on where each kind of array lives and how its files end; every extension the code
  uses is one of the binary extensions the specification lists; the tar names are the documented ones -/
theorem locations_match_specification :
    (∀ e ∈ Gen.FileNames.featureFiles, ∃ s ∈ Gen.SpecPaths.binarySections,
        e.2.1 = "reconstruction/" ++ s.1 ∧ e.2.2 = s.2.1 ∧ e.1 = s.1) ∧
    (∀ e ∈ Gen.FileNames.featureFiles, e.2.2 ∈ Gen.SpecPaths.binaryExtensions) ∧
    (∀ e ∈ Gen.FileNames.tarFiles, ∃ t ∈ Gen.SpecPaths.tarNames,
        e.2 = "reconstruction/" ++ e.1 ++ "/T/" ++ t) ∧
    ((Gen.SpecPaths.binarySections.find? (fun s => s.1 == "matches")).map (·.2.2) =
        some ("*" ++ Gen.FileNames.pairSeparator ++ "/*" ++ ".matches")) := by
  -- `+kernel`: the elaborator's own evaluation of this instance is the slow half and adds nothing
  decide +kernel

-- non-vacuity: a 2 x 2 array of 16-bit elements
example : toFile { item := 2, rows := 2, cols := 2, bits := [0x0102, 0xFFFE, 0, 0x8000] } = [2, 1, 0xFE, 0xFF, 0, 0, 0, 0x80] := by decide
example : fromFile 2 2 [2, 1, 0xFE, 0xFF, 0, 0, 0, 0x80] = some { item := 2, rows := 2, cols := 2, bits := [0x0102, 0xFFFE, 0, 0x8000] } := by decide

/-- the model's assumptions about array_to_file / array_from_file are what the translator reads in the source on every run
  (Gen/IoShapes.lean): the file is opened with a truncating binary write (`'wb'`: nothing of an earlier, longer file remains),
  the array is forced to little-endian and dumped with `tofile`, it is read back from a binary read; neither function is
  decorated (no memoisation between a write and the next read) -/
theorem array_io_code_is_the_model :
    Gen.IoShapes.arrayWriteMode = "wb" ∧ Gen.IoShapes.arrayWriteByteOrder = "<" ∧ Gen.IoShapes.arrayWriteCall = "tofile" ∧
    Gen.IoShapes.arrayReadMode = "rb" :=
  ⟨rfl, rfl, rfl, rfl⟩

end Kapture.C03
