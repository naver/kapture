/-
  Props/C07.lean — property theorems for C07 (containers act as plain maps whatever the edit history).
  Property theorems ONLY.  Definitions of `abs`, `Inv`, the plain-map semantics and `interpSpec` are in Lemmas/C07.lean.
  Everything is for ALL states / histories of ANY length over ANY timestamps and device names.
-/
import Kapture.Lemmas.C07

namespace Kapture.C07
open Kapture Kapture.Sort

variable {P : Type}

/-- the invariant holds initially and is preserved by every operation, hence in every reachable state -/
theorem inv_init : Inv (init : State P) :=
  ⟨List.nodup_nil, fun _ _ hg => (by cases hg), Or.inl rfl⟩

theorem inv_step (s : State P) (op : Op P) (h : Inv s) : Inv (step s op).1 := by
  by_cases hq : isQuery op = true
  · rcases query_state s op hq with e | e <;> rw [e]
    · exact h
    · exact inv_refresh s h
  -- the mutators, one case for each way through `step`, in the order of its text: setPair, setTs, delPair (no such
  -- timestamp / timestamp emptied / other devices left / no such device), delTs (present / absent), then the queries
  fun_cases step s op with
  | case1 ts dev p =>
    refine inv_set s ts _ [] h (Dict.nodup_set _ _ _ ?_) (Or.inl rfl)
    show (Dict.keys ((Dict.get? ts s.data).getD [])).Nodup
    cases hg : Dict.get? ts s.data with
    | none => exact List.nodup_nil
    | some i => exact h.2.1 _ _ hg
  | case2 ts inner => exact inv_set s ts _ [] h (Dict.nodup_ofList _) (Or.inl rfl)
  | case3 | case6 | case8 => exact h
  | case4 ts | case7 ts => exact inv_erase s ts h
  | case5 ts dev inner hg =>
    -- `del t[ts, dev]` with other devices left keeps the cache
    exact inv_set s ts _ _ h (Dict.nodup_erase _ _ (h.2.1 _ _ hg)) (Or.inr ⟨rfl, Dict.mem_keys_of_get? hg⟩)
  | _ => exact (hq rfl).elim

theorem inv_reachable (ops : List (Op P)) : Inv (run (init : State P) ops).1 := run_inv Inv inv_step init ops inv_init

/-- refinement: each mutating operation acts on the content exactly like the plain map operation -/
theorem setPair_refines (s : State P) (ts : Int) (dev : String) (p : P) (h : Inv s) :
    abs (step s (Op.setPair ts dev p)).1 = (abs s).setPair ts dev p ∧ (step s (Op.setPair ts dev p)).2 = Out.ok := by
  have _ := h  -- (holds even without the invariant)
  exact setPair_refines' s ts dev p

theorem setTs_refines (s : State P) (ts : Int) (inner : List (String × P)) (h : Inv s) :
    abs (step s (Op.setTs ts inner)).1 = (abs s).setTs ts inner ∧ (step s (Op.setTs ts inner)).2 = Out.ok := by
  have _ := h  -- (holds even without the invariant)
  exact setTs_refines' s ts inner

theorem delTs_refines (s : State P) (ts : Int) (h : Inv s) :
    if (abs s).present ts then
      abs (step s (Op.delTs ts)).1 = (abs s).delTs ts ∧ (step s (Op.delTs ts)).2 = Out.ok
    else step s (Op.delTs ts) = (s, Out.keyError) := by
  by_cases hp : (abs s).present ts = true
  · rw [if_pos hp, show step s (Op.delTs ts) = (⟨Dict.erase ts s.data, []⟩, Out.ok) from if_pos hp]
    exact ⟨abs_erase s ts [] h.1, rfl⟩
  · rw [if_neg hp]
    exact if_neg hp

theorem delPair_refines (s : State P) (ts : Int) (dev : String) (h : Inv s) :
    if ((abs s).entry ts dev).isSome then
      Abs.DelPair (abs s) (abs (step s (Op.delPair ts dev)).1) ts dev ∧ (step s (Op.delPair ts dev)).2 = Out.ok
    else step s (Op.delPair ts dev) = (s, Out.keyError) := by
  cases hg : Dict.get? ts s.data with
  | none =>
    have : (abs s).entry ts dev = none := by simp only [abs, entry, hg, Option.bind_none]
    rw [this]
    simp [step, hg]
  | some inner =>
    have hent : ∀ d, (abs s).entry ts d = Dict.get? d inner := fun d => by simp only [abs, entry, hg, Option.bind_some]
    have hni := h.2.1 _ _ hg
    rw [hent]
    by_cases hd : (Dict.get? dev inner).isSome = true
    · rw [if_pos hd]
      have hd' : Dict.has dev inner = true := hd
      -- the timestamp goes exactly when nothing else was stored under it
      have hrest : Dict.erase dev inner = [] ↔ ∀ d, d ≠ dev → (abs s).entry ts d = none := by
        simp only [hent]
        exact Dict.erase_eq_nil_iff dev inner hni
      by_cases hemp : (Dict.erase dev inner).isEmpty = true
      · have hstep : step s (Op.delPair ts dev) = (⟨Dict.erase ts s.data, []⟩, Out.ok) := by
          simp only [step, hg, hd', hemp, if_true]
        have hno := hrest.mp (List.isEmpty_iff.mp hemp)
        rw [hstep, abs_erase s ts [] h.1]
        refine ⟨⟨fun t d => ?_, fun t hne => ?_, ?_⟩, rfl⟩
        · by_cases e : t = ts
          · subst e
            by_cases e2 : d = dev
            · simp [Abs.delTs, e2]
            · simp [Abs.delTs, e2, hno d e2]
          · simp [Abs.delTs, e]
        · simp [Abs.delTs, hne]
        · refine iff_of_false (by simp [Abs.delTs]) ?_
          rintro ⟨d, hne, hs⟩
          rw [hno d hne] at hs
          cases hs
      · have hstep : step s (Op.delPair ts dev) = (⟨Dict.set ts (Dict.erase dev inner) s.data, s.cache⟩, Out.ok) := by
          simp only [step, hg, hd', hemp, if_true]
          rfl
        rw [hstep, abs_set]
        refine ⟨⟨fun t d => ?_, fun t hne => ?_, ?_⟩, rfl⟩
        · by_cases e : t = ts
          · subst e
            simp only [if_true, true_and, Dict.get?_erase _ _ _ hni, hent]
          · simp [e]
        · simp [hne]
        · simp only [decide_true, Bool.true_or, true_iff]
          refine Classical.byContradiction fun hc => hemp (List.isEmpty_iff.mpr (hrest.mpr fun d hne => ?_))
          exact Option.not_isSome_iff_eq_none.mp fun hs => hc ⟨d, hne, hs⟩
    · rw [if_neg hd]
      have hd' : ¬ Dict.has dev inner = true := hd
      simp only [step, hg, hd']
      rfl

/-- queries never change the content (some refresh the cache) -/
theorem query_keeps_content (s : State P) (op : Op P) (hq : isQuery op = true) :
    abs (step s op).1 = abs s := by
  rcases query_state s op hq with e | e <;> rw [e]
  exact abs_refresh s

/-- membership and lookup answer from the content -/
theorem hasPair_spec (s : State P) (ts : Int) (dev : String) :
    (step s (Op.hasPair ts dev)).2 = Out.bool ((abs s).entry ts dev).isSome := by
  show Out.bool _ = Out.bool ((Dict.get? ts s.data).bind (Dict.get? dev)).isSome
  cases Dict.get? ts s.data <;> rfl

theorem hasTs_spec (s : State P) (ts : Int) :
    (step s (Op.hasTs ts)).2 = Out.bool ((abs s).present ts) := rfl

theorem getPair_spec (s : State P) (ts : Int) (dev : String) :
    (step s (Op.getPair ts dev)).2 = (match (abs s).entry ts dev with | some p => Out.pose p | none => Out.keyError) := by
  cases h : entry s ts dev <;> simp only [step, abs, h]

/-- `key_pairs` lists exactly the stored (timestamp, device) pairs, each once -/
theorem keyPairs_spec (s : State P) (h : Inv s) :
    ∃ l, (step s Op.keyPairs).2 = Out.pairs l ∧ l.Nodup ∧ ∀ t d, (t, d) ∈ l ↔ ((abs s).entry t d).isSome = true :=
  ⟨keyPairsOf s.data, rfl, keyPairsOf_nodup s.data h.1 h.2.1, fun t d => keyPairsOf_mem s.data h.1 t d⟩

/-- the sorted-timestamp list is the strictly increasing list of the timestamps present, whatever the cache held -/
theorem sortedList_spec (s : State P) (h : Inv s) :
    ∃ l, (step s Op.sortedList).2 = Out.ints l ∧ SortedKeys (abs s) l :=
  ⟨isort (Dict.keys s.data), congrArg Out.ints (refresh_cache s h), sortedKeys_isort s h⟩

/-- a content has exactly one sorted key list -/
theorem sortedKeys_unique (a : Abs P) (l₁ l₂ : List Int) (h₁ : SortedKeys a l₁) (h₂ : SortedKeys a l₂) : l₁ = l₂ :=
  sortedKeys_unique' a l₁ l₂ h₁ h₂

/-- interpolation: the stored pose when one exists, otherwise the interpolant of the two nearest poses of that
  device when both lie within the allowed interval, otherwise nothing -/
theorem interp_spec (s : State P) (ts : Int) (dev : String) (maxI : Int) (l : List Int) (h : Inv s)
    (hl : SortedKeys (abs s) l) :
    (step s (Op.interp ts dev maxI)).2 = interpSpec (abs s) l ts dev maxI := by
  show (interpolate s ts dev maxI).2 = _
  fun_cases interpolate s ts dev maxI with
  | case1 p he => simp only [interpSpec, abs, he]
  | case2 he =>
    dsimp only
    rw [refresh_cache_eq s l h hl, entry_refresh, refresh_data]
    exact interpCore_eq (entry s) (fun x => Dict.has x s.data) l ts dev maxI hl.1 (fun x hx => (hl.2 x).mp hx) he

/-- ... and never fails -/
theorem interp_total (s : State P) (ts : Int) (dev : String) (maxI : Int) (h : Inv s) :
    (step s (Op.interp ts dev maxI)).2 ≠ Out.keyError ∧ (step s (Op.interp ts dev maxI)).2 ≠ Out.indexError := by
  rw [interp_spec s ts dev maxI _ h (sortedKeys_isort s h)]
  exact interpSpec_ne _ _ _ _ _

/-- the reference digit count is the usual one: d digits means 10^(d-1) ≤ n < 10^d -/
theorem digitsRef_bounds (n : Nat) (h : 0 < n) : 10 ^ (digitsRef n - 1) ≤ n ∧ n < 10 ^ digitsRef n := by
  refine ⟨Nat.le_of_not_lt fun hlt => ?_, (digitsRef_le_iff (digitsRef_pos n)).mp (Nat.le_refl _)⟩
  -- one digit fewer would do: not if `digitsRef n - 1` is positive, and `n < 10 ^ 0` is `n = 0`
  rcases Nat.eq_zero_or_pos (digitsRef n - 1) with h0 | hp
  · rw [h0] at hlt; omega
  · have := (digitsRef_le_iff hp).mpr hlt; omega

/-- `num_digits` (generated from the source) counts decimal digits of |n| -/
theorem numDigits_spec (n : Int) : Gen.NumDigits.numDigits n = (digitsRef n.natAbs : Int) := numDigits_spec' n

/-- timestamp length on non-negative timestamps: the common digit count or -1 (sampling 9 positions of a sorted list
  is enough because the digit count is monotone) -/
theorem tsLength_spec (s : State P) (l : List Int) (h : Inv s) (hl : SortedKeys (abs s) l) (hpos : ∀ t ∈ l, 0 ≤ t) :
    (step s Op.tsLength).2 = tsLengthSpec l := by
  simp only [step, refresh_cache_eq s l h hl]
  exact tsLengthOf_eq l hl.1 hpos

/-- history independence, one step: two states with the same content answer every order-free query alike,
  and every operation leaves them with the same content -/
theorem same_content_same_answers (s₁ s₂ : State P) (op : Op P) (h₁ : Inv s₁) (h₂ : Inv s₂) (e : abs s₁ = abs s₂) :
    abs (step s₁ op).1 = abs (step s₂ op).1 ∧ (isOrderFreeQuery op = true ∨ isQuery op = false → (step s₁ op).2 = (step s₂ op).2) := by
  by_cases hq : isQuery op = true
  · refine ⟨by rw [query_keeps_content s₁ op hq, query_keeps_content s₂ op hq, e], fun hc => ?_⟩
    -- equal contents have the same sorted key list, so both caches refresh to the same list
    have hl₂ := sortedKeys_isort s₂ h₂
    have hl₁ : SortedKeys (abs s₁) (isort (Dict.keys s₂.data)) := e ▸ hl₂
    have hcache := (refresh_cache_eq s₁ _ h₁ hl₁).trans (refresh_cache_eq s₂ _ h₂ hl₂).symm
    cases op with
    | hasPair ts dev => rw [hasPair_spec, hasPair_spec, e]
    | hasTs ts => rw [hasTs_spec, hasTs_spec, e]
    | getPair ts dev => rw [getPair_spec, getPair_spec, e]
    | sortedList => simp only [step, hcache]
    | tsLength => simp only [step, hcache]
    | interp ts dev maxI => rw [interp_spec s₁ ts dev maxI _ h₁ hl₁, interp_spec s₂ ts dev maxI _ h₂ hl₂, e]
    | keyPairs => rcases hc with hc | hc <;> cases hc
    | _ => cases hq
  · cases op with
    | setPair ts dev p =>
      exact ⟨by rw [(setPair_refines' s₁ ts dev p).1, (setPair_refines' s₂ ts dev p).1, e], fun _ => rfl⟩
    | setTs ts inner =>
      exact ⟨by rw [(setTs_refines' s₁ ts inner).1, (setTs_refines' s₂ ts inner).1, e], fun _ => rfl⟩
    | delTs ts =>
      have r1 := delTs_refines s₁ ts h₁
      have r2 := delTs_refines s₂ ts h₂
      rw [e] at r1
      by_cases hp : (abs s₂).present ts = true
      · rw [if_pos hp] at r1 r2
        exact ⟨r1.1.trans r2.1.symm, fun _ => r1.2.trans r2.2.symm⟩
      · rw [if_neg hp] at r1 r2
        rw [r1, r2]
        exact ⟨e, fun _ => rfl⟩
    | delPair ts dev =>
      have r1 := delPair_refines s₁ ts dev h₁
      have r2 := delPair_refines s₂ ts dev h₂
      rw [e] at r1
      by_cases hp : ((abs s₂).entry ts dev).isSome = true
      · rw [if_pos hp] at r1 r2
        exact ⟨delPair_unique _ _ _ _ _ r1.1 r2.1, fun _ => r1.2.trans r2.2.symm⟩
      · rw [if_neg hp] at r1 r2
        rw [r1, r2]
        exact ⟨e, fun _ => rfl⟩
    | _ => exact (hq rfl).elim

/-- history independence, whole histories: whatever two edit/query histories led to the same content,
  every continuation made of order-free operations produces the same outputs -/
theorem history_independent (h₁ h₂ cont : List (Op P))
    (e : abs (run (init : State P) h₁).1 = abs (run (init : State P) h₂).1)
    (hc : ∀ op ∈ cont, isOrderFreeQuery op = true ∨ isQuery op = false) :
    (run (run (init : State P) h₁).1 cont).2 = (run (run (init : State P) h₂).1 cont).2 :=
  run_outputs_eq (fun s₁ s₂ => Inv s₁ ∧ Inv s₂ ∧ abs s₁ = abs s₂)
    (fun s₁ s₂ op ⟨i₁, i₂, e⟩ =>
      have h := same_content_same_answers s₁ s₂ op i₁ i₂ e
      ⟨⟨inv_step s₁ op i₁, inv_step s₂ op i₂, h.1⟩, h.2⟩)
    _ _ cont ⟨inv_reachable h₁, inv_reachable h₂, e⟩ hc

-- non-vacuity: a reachable state with a warm cache, an empty timestamp and a stored pose
example : ∃ s : State Nat, Inv s ∧ s.cache ≠ [] ∧ (abs s).present 20 = true ∧ (abs s).entry 10 "a" = some 1 :=
  ⟨(run init [Op.setPair 10 "a" 1, Op.setTs 20 [], Op.sortedList]).1, inv_reachable _, by decide, by decide, by decide⟩

end Kapture.C07
