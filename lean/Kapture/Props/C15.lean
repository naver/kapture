/-
  Props/C15.lean — property theorems for C15 (OpenSfM export then import preserves shots, poses, cameras, points, matches).
  Property theorems ONLY.  Every statement is for ANY number of cameras / images / points / pairs (no size bound): in
  particular the point theorems cover clouds of more than 10, 100, 1000, ... points.
  PARTIAL: what is proved is the converter's discrete plumbing and exact arithmetic (Model/C15.lean); JSON / npz / pickle /
  csv serialisation, os.walk, the rotation vector <-> quaternion maps of numpy-quaternion and IEEE rounding are exercised
  by the full export -> import loops of harness/c15.py, not proved.
-/
import Kapture.Lemmas.C15

namespace Kapture.C15

/-! ### cameras -/

/-- the focal divided by the largest side and multiplied back is the focal, for all positive sizes (rationals) -/
theorem focal_roundtrip (f w h : Rat) (hw : 0 < w) (hh : 0 < h) : exportFocal f w h * largest w h = f := by
  rw [exportFocal_def]
  exact Rat.div_mul_cancel (Rat.ne_of_gt (largest_pos hw hh))

/-- the hand-written camera conversion of Model/C15.lean reads what the GENERATED definitions (Gen/OsfmCamera.lean, translated
  from export_opensfm_camera and import_camera on every run) say: the accepted camera types, where k1 / k2 are read, the
  width / height entries, the focal expressions of both directions, the type and the parameter list the importer builds -/
theorem generated_camera_code_is_the_model :
    (∀ t, Gen.OsfmCamera.perspectiveTypes.contains (typeName t) = (t != .other)) ∧
    Gen.OsfmCamera.k1Index = 5 ∧ Gen.OsfmCamera.k2Index = 6 ∧ Gen.OsfmCamera.importType = "RADIAL" ∧
    Gen.OsfmCamera.projectionType = "perspective" ∧
    (∀ mx p, Gen.OsfmCamera.exportWidth mx p = p 0 ∧ Gen.OsfmCamera.exportHeight mx p = p 1 ∧
      Gen.OsfmCamera.exportFocal mx p = p 2 / mx (p 0) (p 1)) ∧
    (∀ mx w h f k1 k2, Gen.OsfmCamera.importParams mx w h f k1 k2 = [w, h, f * mx w h, w / 2, h / 2, k1, k2]) := by
  refine ⟨fun t => by cases t <;> decide +kernel, rfl, rfl, rfl, rfl, fun mx p => ⟨rfl, rfl, rfl⟩, fun mx w h f k1 k2 => rfl⟩

/-- the same through the importer's own computation of the largest side from the integer width and height -/
theorem focal_roundtrip_pixels (f : Rat) (W H : Int) (hW : 0 < W) (hH : 0 < H) :
    importFocal (exportFocal f (W : Rat) (H : Rat)) W H = f := by
  rw [importFocal_def]
  exact focal_roundtrip f W H (Rat.intCast_pos.2 hW) (Rat.intCast_pos.2 hH)

/-- a SIMPLE_PINHOLE / SIMPLE_RADIAL / RADIAL camera with integer positive image size and centred principal point
  comes back as the same camera written as RADIAL (absent distortion coefficients are 0) -/
theorem camera_roundtrip (c : Camera) (W H : Int) (ht : c.type ≠ CamType.other) (hw : c.w = (W : Rat))
    (hh : c.h = (H : Rat)) (hW : 0 < W) (hH : 0 < H) (hc : centred c = true) :
    loopCamera c = Except.ok (asRadial c) := by
  obtain ⟨type, w, h, f, cx, cy, k1, k2⟩ := c
  simp only [centred, Bool.and_eq_true, beq_iff_eq] at ht hw hh hc
  obtain ⟨rfl, rfl⟩ := hc
  subst hw hh
  simp only [loopCamera, exportCamera, if_neg ht, importCamera, asRadial, truncInt_intCast,
    focal_roundtrip_pixels f W H hW hH]

/-- every other camera type is refused by the export (ValueError), never silently converted -/
theorem camera_other_rejected (c : Camera) (ht : c.type = CamType.other) : loopCamera c = Except.error "ValueError" := by
  rw [loopCamera, exportCamera, if_pos ht]

/-! ### 3-D points -/

/-- all the keys of one export have the same length -/
theorem point_keys_same_length (n i : Nat) (h : i < n) : (pointKey n i).length = nbDigits n := by
  rw [pointKey_eq_padded h, length_padded]

/-- the key function is strictly monotone from the index order to the order the importer sorts by (Python `str` order),
  whatever the number of points -/
theorem point_key_strict_mono (n i j : Nat) (hij : i < j) (hj : j < n) : pointKey n i < pointKey n j := by
  rw [pointKey_eq_padded (Nat.lt_trans hij hj), pointKey_eq_padded hj]
  exact padded_lt hij (lt_pow_nbDigits hj)

/-- the exported dict lists its keys in strictly increasing `str` order: `sorted()` leaves them in place -/
theorem point_keys_sorted {P : Type} (pts : List P) : (Dict.keys (exportPoints pts)).Pairwise (· < ·) := by
  rw [exportPoints, exportPointsWith_eq pts (point_key_strict_mono _)]
  exact keys_zipIdx_pairwise_lt pts (point_key_strict_mono _)

/-- the point sequence survives: reading the exported dict back in the importer's iteration order yields the same
  sequence of points, for every list of points of any length -/
theorem points_roundtrip {P : Type} (pts : List P) : importPoints (exportPoints pts) = pts :=
  importPoints_exportPointsWith pts (point_key_strict_mono _)

/-! ### shots -/

/-- with distinct image names and every image posed, the i-th record comes back as the shot of timestamp i bound to the
  same camera identifier, the same image name and the same pose; nothing is added or lost -/
theorem shots_roundtrip {P : Type} (records : List (Int × String × Name)) (traj : List ((Int × String) × P))
    (hn : (records.map (fun r => r.2.2)).Nodup)
    (hp : ∀ r ∈ records, (Dict.get? (r.1, r.2.1) traj).isSome = true) :
    ∃ out, importShots (exportShots records traj) = Except.ok out ∧ out.length = records.length ∧
      ∀ (i : Nat) (r : Int × String × Name), records[i]? = some r →
        ∃ p, Dict.get? (r.1, r.2.1) traj = some p ∧ out[i]? = some (i, r.2.1, r.2.2, p) := by
  have he := exportShots_eq records traj hn
  obtain ⟨out, h1, h2, h3⟩ := importShotsFrom_ok (exportShots records traj) 0
    (by rw [he]; exact List.forall_mem_map.2 hp)
  rw [he] at h2 h3
  refine ⟨out, h1, by rw [h2, List.length_map], fun i r hr => ?_⟩
  have := h3 i _ (by rw [List.getElem?_map, hr]; rfl)
  rwa [Nat.zero_add] at this

/-- every record's (camera, image, pose) binding is found in the result -/
theorem shot_binding_preserved {P : Type} (records : List (Int × String × Name)) (traj : List ((Int × String) × P))
    (hn : (records.map (fun r => r.2.2)).Nodup)
    (hp : ∀ r ∈ records, (Dict.get? (r.1, r.2.1) traj).isSome = true)
    (out : List (Nat × String × Name × P)) (ho : importShots (exportShots records traj) = Except.ok out)
    (r : Int × String × Name) (hr : r ∈ records) :
    ∃ i p, Dict.get? (r.1, r.2.1) traj = some p ∧ (i, r.2.1, r.2.2, p) ∈ out := by
  obtain ⟨out', h1, _, h3⟩ := shots_roundtrip records traj hn hp
  rw [ho] at h1
  cases h1
  obtain ⟨i, hi⟩ := List.getElem?_of_mem hr
  obtain ⟨p, hp1, hp2⟩ := h3 i r hi
  exact ⟨i, p, hp1, List.mem_of_getElem? hp2⟩

/-- conversely every imported shot is the image of a record: no binding is invented -/
theorem shot_binding_origin {P : Type} (records : List (Int × String × Name)) (traj : List ((Int × String) × P))
    (hn : (records.map (fun r => r.2.2)).Nodup)
    (hp : ∀ r ∈ records, (Dict.get? (r.1, r.2.1) traj).isSome = true)
    (out : List (Nat × String × Name × P)) (ho : importShots (exportShots records traj) = Except.ok out)
    (x : Nat × String × Name × P) (hx : x ∈ out) :
    ∃ r ∈ records, Dict.get? (r.1, r.2.1) traj = some x.2.2.2 ∧ x.2.1 = r.2.1 ∧ x.2.2.1 = r.2.2 := by
  obtain ⟨out', h1, h2, h3⟩ := shots_roundtrip records traj hn hp
  rw [ho] at h1
  cases h1
  obtain ⟨i, hi, rfl⟩ := List.getElem_of_mem hx
  have hlt : i < records.length := h2 ▸ hi
  obtain ⟨p, hp1, hp2⟩ := h3 i records[i] (List.getElem?_eq_getElem hlt)
  rw [Option.some.inj ((List.getElem?_eq_getElem hi).symm.trans hp2)]
  exact ⟨records[i], List.getElem_mem hlt, hp1, rfl, rfl⟩

/-! ### features and matches -/

/-- the image name is recovered from a features / matches file name -/
theorem file_name_roundtrip (suffix : List Char) (name : Name) : stripSuffix suffix (addSuffix suffix name) = name := by
  rw [stripSuffix, addSuffix, List.length_append, Nat.add_sub_cancel]
  exact List.take_left' rfl

/-- distinct images are written to distinct files -/
theorem file_name_injective (suffix : List Char) (a b : Name) (h : addSuffix suffix a = addSuffix suffix b) : a = b :=
  List.append_cancel_right h

/-- every exported file is found again by the importer's suffix filter -/
theorem file_name_recognised (suffix : List Char) (name : Name) : hasSuffix suffix (addSuffix suffix name) = true :=
  List.isSuffixOf_iff_suffix.2 (List.suffix_append name suffix)

/-- the images that have features come back, in order -/
theorem feature_names_roundtrip (images : List Name) : importFeatureNames (exportFeatureFiles images) = images := by
  rw [importFeatureNames, exportFeatureFiles,
    List.filter_eq_self.2 (List.forall_mem_map.2 fun n _ => file_name_recognised _ n), List.map_map, Function.comp_def,
    List.map_congr_left (g := id) fun n _ => file_name_roundtrip featuresSuffix n, List.map_id]

/-- match pair naming round-trips: the imported pairs are exactly the exported pairs whose first image is a record,
  under their own (image 1, image 2) names, with the rows the export / import column maps produce -/
theorem matches_roundtrip (images : List Name) (pairs : List ((Name × Name) × List Row))
    (hn : (pairs.map (·.1)).Nodup) (x : (Name × Name) × List Row) :
    x ∈ importMatches (exportMatches images pairs) ↔
      ∃ p ∈ pairs, p.1.1 ∈ images ∧ x = (p.1, (p.2.map exportRow).map importRow) := by
  have hfiles : ∀ f ∈ images.map fun im1 => (addSuffix matchesSuffix im1, group pairs im1),
      hasSuffix matchesSuffix f.1 = true := List.forall_mem_map.2 fun im1 _ => file_name_recognised _ im1
  rw [exportMatches_eq images pairs hn, importMatches, List.filter_eq_self.2 hfiles, List.flatMap_map]
  simp only [List.mem_flatMap, List.mem_map, group, List.mem_filter, file_name_roundtrip, decide_eq_true_eq]
  constructor
  · rintro ⟨im1, him, _, ⟨p, ⟨hp, rfl⟩, rfl⟩, rfl⟩
    exact ⟨p, hp, him, rfl⟩
  · rintro ⟨p, hp, him, rfl⟩
    exact ⟨p.1.1, him, _, ⟨p, ⟨hp, rfl⟩, rfl⟩, rfl⟩

/-- integer-valued match indices are preserved by the column maps (the score becomes 1) -/
theorem match_indices_preserved (a b : Int) (s : Rat) :
    importRow (exportRow ((a : Rat), (b : Rat), s)) = ((a : Rat), (b : Rat), 1) := by
  rw [exportRow, importRow, truncInt_intCast, truncInt_intCast]

/-! ### non-vacuity -/

-- twelve points: two-digit zero-padded keys, and the cloud comes back in order
example : (exportPoints ["a", "b", "c", "d", "e", "f", "g", "h", "i", "j", "k", "l"]).map (fun kv => String.ofList kv.1)
    = ["00", "01", "02", "03", "04", "05", "06", "07", "08", "09", "10", "11"] := by decide +kernel

-- the keys before the fix (plain decimal) are NOT monotone: "10" sorts before "2"
example : plainKey 12 10 < plainKey 12 2 := by decide

-- a SIMPLE_RADIAL 640 x 480 camera satisfies the hypotheses of `camera_roundtrip`: focal 500.5 is exported as
-- 500.5 / 640 and comes back; the unused k2 slot comes back as 0
example : loopCamera { type := .simpleRadial, w := 640, h := 480, f := 1001 / 2, cx := 320, cy := 240, k1 := 1 / 10, k2 := 7 }
    = Except.ok { type := .radial, w := 640, h := 480, f := 1001 / 2, cx := 320, cy := 240, k1 := 1 / 10, k2 := 0 } :=
  camera_roundtrip _ 640 480 (by decide) rfl rfl (by decide) (by decide) (by decide +kernel)

-- two records sharing a timestamp on two cameras
example : importShots (exportShots [(5, "cam0", "a.jpg".toList), (5, "cam1", "b.jpg".toList)]
      [((5, "cam0"), "p0"), ((5, "cam1"), "p1")])
    = Except.ok [(0, "cam0", "a.jpg".toList, "p0"), (1, "cam1", "b.jpg".toList, "p1")] := by rfl

-- one pair with integer-valued indices: the pair keeps its names, the indices are kept, the score becomes 1
example : importMatches (exportMatches ["a".toList, "b".toList] [(("a".toList, "b".toList), [(3, 7, 1 / 2)])])
    = [(("a".toList, "b".toList), [(3, 7, 1)])] := by decide +kernel

end Kapture.C15
