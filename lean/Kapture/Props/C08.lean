/-
  Props/C08.lean — property theorems for C08 (dataset comparison is a true equality: symmetric and sensitive to every part).
  Property theorems ONLY.  For ALL datasets; `close` is any closeness relation with the stated hypotheses.
-/
import Kapture.Lemmas.C08

namespace Kapture.C08

/-- exact characterisation of the table comparison: equal iff both absent, or both present with the SAME key list and
  pairwise close values — so ANY added, removed or re-keyed entry, and any value altered beyond closeness, is seen -/
theorem equalTable_iff (close : String → String → Bool) (a b : Option Table) :
    equalTable close a b = true ↔
      (a = none ∧ b = none) ∨
      (∃ x y, a = some x ∧ b = some y ∧ x.map (·.1) = y.map (·.1) ∧
        ∀ (i : Nat) (p q : Key × String), x[i]? = some p → y[i]? = some q → close p.2 q.2 = true) :=
  optional_iff (equalTable close) (equalTable_none_some close) (equalTable_some_none close) a b (equalTable_none_none close)
    (fun x y _ _ => equalTable_some_iff close x y)

/-- sensitivity, spelled out: altering one value beyond closeness -/
theorem table_sensitive_alter (close : String → String → Bool) (pre post : Table) (k : Key) (v v' : String)
    (h : close v v' = false) :
    equalTable close (some (pre ++ (k, v) :: post)) (some (pre ++ (k, v') :: post)) = false := by
  rw [← Bool.not_eq_true]
  intro ht
  rw [equalTable_some_iff] at ht
  have := ht.2 pre.length (k, v) (k, v') (by simp) (by simp)
  rw [h] at this
  cases this

/-- sensitivity: removing (or, read right to left, adding) one entry -/
theorem table_sensitive_remove (close : String → String → Bool) (pre post : Table) (e : Key × String) :
    equalTable close (some (pre ++ e :: post)) (some (pre ++ post)) = false ∧
    equalTable close (some (pre ++ post)) (some (pre ++ e :: post)) = false := by
  constructor
  · apply equalTable_length_ne
    simp only [List.length_append, List.length_cons]
    omega
  · apply equalTable_length_ne
    simp only [List.length_append, List.length_cons]
    omega

/-- sensitivity: a part present on one side only -/
theorem table_sensitive_presence (close : String → String → Bool) (x : Table) :
    equalTable close (some x) none = false ∧ equalTable close none (some x) = false := ⟨rfl, rfl⟩

/-- reflexive and symmetric when closeness is -/
theorem equalTable_refl (close : String → String → Bool) (hr : ∀ v, close v v = true) (a : Option Table) :
    equalTable close a a = true := by
  cases a with
  | none => rfl
  | some x =>
    rw [equalTable_some_iff]
    refine ⟨rfl, fun i p q hp hq => ?_⟩
    rw [hp] at hq
    cases hq
    exact hr _

theorem equalTable_symm (close : String → String → Bool) (hs : ∀ v w, close v w = close w v) (a b : Option Table) :
    equalTable close a b = equalTable close b a :=
  optional_symm (equalTable close) (equalTable_none_some close) (equalTable_some_none close) a b
    (fun _ _ => trivial) (fun _ _ => trivial) (fun x y _ _ => equalTable_some_imp_symm close hs x y)

/-- the generated equal_sets tests the symmetric difference ... -/
theorem set_shape_is_symmetric : Gen.ComparedParts.setShape = "symmetric_difference" := rfl

/-- ... so it is set equality (both inclusions) -/
theorem equalSets_iff (a b : List String) :
    equalSets Gen.ComparedParts.setShape a b = true ↔ SameMembers a b := by
  rw [set_shape_is_symmetric]
  exact equalSets_symmdiff_iff a b

/-- collections: equal iff both absent, or both present with the same type names and, type by type, the same
  configuration and the same members -/
theorem equalColl_iff (a b : Option Coll) (ha : ∀ x, a = some x → (x.map (·.1)).Nodup)
    (hb : ∀ y, b = some y → (y.map (·.1)).Nodup) :
    equalColl Gen.ComparedParts.setShape a b = true ↔
      (a = none ∧ b = none) ∨
      (∃ x y, a = some x ∧ b = some y ∧ SameMembers (x.map (·.1)) (y.map (·.1)) ∧
        ∀ ty cfg ms, lookupColl x ty = some (cfg, ms) →
          ∃ ms', lookupColl y ty = some (cfg, ms') ∧ SameMembers ms ms') := by
  have _ := hb  -- not needed: code and statement alike read `b` through `lookupColl`, which sees the first entry of a type
  rw [set_shape_is_symmetric]
  exact optional_iff _ (fun _ => rfl) (fun _ => rfl) a b rfl (fun x y hx _ => equalColl_some_iff x y (ha x hx))

theorem equalColl_symm (a b : Option Coll) (ha : ∀ x, a = some x → (x.map (·.1)).Nodup)
    (hb : ∀ y, b = some y → (y.map (·.1)).Nodup) :
    equalColl Gen.ComparedParts.setShape a b = equalColl Gen.ComparedParts.setShape b a := by
  rw [set_shape_is_symmetric]
  exact optional_symm _ (fun _ => rfl) (fun _ => rfl) a b ha hb equalColl_some_imp_symm

/-- the whole comparison is the conjunction over the compared attributes -/
theorem equalKapture_iff (close : String → String → Bool) (a b : Dataset) :
    equalKapture close a b = true ↔
      ∀ p ∈ Gen.ComparedParts.comparedParts, equalPart Gen.ComparedParts.setShape close (a p) (b p) = true := by
  unfold equalKapture equalKaptureWith
  rw [List.all_eq_true]

/-- hence a difference inside any compared attribute makes the answer false -/
theorem kapture_sensitive (close : String → String → Bool) (a b : Dataset) (p : String)
    (hp : p ∈ Gen.ComparedParts.comparedParts)
    (hd : equalPart Gen.ComparedParts.setShape close (a p) (b p) = false) : equalKapture close a b = false := by
  rw [← Bool.not_eq_true] at hd ⊢
  intro h
  exact hd ((equalKapture_iff close a b).1 h p hp)

/-- which attributes are compared: every part of a dataset except (at most) records_depth — known finding D6;
  the statement stays true if upstream adds it -/
theorem compared_parts_cover : ∀ p ∈ allParts, p ∈ Gen.ComparedParts.comparedParts ∨ p = "records_depth" :=
  fun p => (mem_allParts_iff p).mp

/-- and nothing else than dataset parts is compared -/
theorem compared_parts_are_parts : ∀ p ∈ Gen.ComparedParts.comparedParts, p ∈ allParts :=
  fun p hp => (mem_allParts_iff p).mpr (Or.inl hp)

-- non-vacuity
example : equalTable (fun v w => v == w) (some [(["1", "cam"], "a.jpg")]) (some [(["1", "cam"], "b.jpg")]) = false := by decide +kernel
example : equalColl Gen.ComparedParts.setShape (some [("sift", "f32x4", ["a", "b"])]) (some [("sift", "f32x4", ["b", "a", "a"])]) = true := by decide +kernel

end Kapture.C08
