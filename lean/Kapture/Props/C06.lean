/-
  Props/C06.lean — property theorems for C06 (switching between rig poses and per-sensor poses never moves a sensor).
  Property theorems ONLY.  `mul`/`inv` are the pose composition and inverse (C05 proves their group laws); the theorems hold
  for ANY rig forest and ANY trajectory satisfying the stated hypotheses, any number of timestamps.
-/
import Kapture.Lemmas.C06

namespace Kapture.C06
open Kapture

variable {G : Type}

/-- entries of devices that are not rigs are untouched by the replacement -/
theorem remove_keeps_free_entries (mul : G → G → G) (rigs : Rigs G) (n : Nat) (t : List (Entry G)) (e : Entry G)
    (he : e ∈ t) (hf : ¬ isRig rigs e.dev) : e ∈ remove mul rigs n t :=
  remove_keeps_free n he hf

/-- soundness: every entry after the replacement is, at the same timestamp, the pose implied by some original entry and
  the rig geometry below it (rigs mounted on rigs included) -/
theorem remove_sound (mul : G → G → G) (rigs : Rigs G) (n : Nat) (t : List (Entry G)) (e' : Entry G)
    (h : e' ∈ remove mul rigs n t) :
    ∃ e ∈ t, e.ts = e'.ts ∧ Mounted mul rigs (e.dev, e.g) (e'.dev, e'.g) := by
  induction n generalizing t with
  | zero => exact ⟨e', h, rfl, .here _ _⟩
  | succ n ih =>
    rw [remove_succ] at h
    obtain ⟨e1, he1, hts, hm1⟩ := ih _ h
    obtain ⟨e, he, ⟨_, rfl⟩ | ⟨members, m, gm, hmo, hm, rfl⟩⟩ := mem_removeStep.mp he1
    · exact ⟨e1, he, hts, hm1⟩
    · exact ⟨e, he, hts, .step e.dev e.g members m gm _ _ hmo hm hm1⟩

/-- completeness: every sensor below an original entry gets exactly that implied pose, provided the nesting under that
  entry is within the pass budget -/
theorem remove_complete (mul : G → G → G) (rigs : Rigs G) (n : Nat) (t : List (Entry G)) (e : Entry G) (d : String) (g : G)
    (he : e ∈ t) (hd : DepthLE rigs n e.dev) (hm : Mounted mul rigs (e.dev, e.g) (d, g)) (hs : ¬ isRig rigs d) :
    ∃ e' ∈ remove mul rigs n t, e'.ts = e.ts ∧ e'.dev = d ∧ e'.g = g :=
  ⟨_, mem_remove_of_mounted hs he hd hm, rfl, rfl, rfl⟩

/-- no rig identifier remains when every entry's nesting depth is within the pass budget (max_depth = 10 in the code) -/
theorem remove_leaves_no_rig (mul : G → G → G) (rigs : Rigs G) (n : Nat) (t : List (Entry G))
    (hd : ∀ e ∈ t, DepthLE rigs n e.dev) : ∀ e' ∈ remove mul rigs n t, ¬ isRig rigs e'.dev := by
  induction n generalizing t with
  | zero => exact hd
  | succ n ih =>
    rw [remove_succ]
    refine ih _ fun e1 he1 => ?_
    obtain ⟨e, he, ⟨hmo, rfl⟩ | ⟨members, m, gm, hmo, hm, rfl⟩⟩ := mem_removeStep.mp he1
    · exact depthLE_of_not_rig n (not_isRig_iff.mpr hmo)
    · exact hd e he members hmo (m, gm) hm

/-- a trajectory without rig entries is left as it is -/
theorem remove_identity_without_rigs (mul : G → G → G) (rigs : Rigs G) (n : Nat) (t : List (Entry G))
    (h : ∀ e ∈ t, ¬ isRig rigs e.dev) : remove mul rigs n t = t :=
  remove_eq_self n h

/-- RECOVERY, NESTED RIGS (rigs mounted on rigs, any depth `n`), unspecified master sensors.  After `remove mul rigs n t`,
  at least `n` passes of the recovery (`k ≥ n`; further passes change nothing of what is claimed) give a trajectory that
  contains, for every ORIGINAL entry of a top-level rig (a rig mounted on no rig), an entry with the same timestamp,
  device and pose, and still contains every original entry of a free sensor (neither a rig nor mounted).
  Before each pass the entries are listed by `σ`: the code sorts them (`sortEntries`, with `mem_sortEntries`); the
  theorem holds for ANY listing that keeps the same entries, in particular for the list as produced (`σ = id`).
  Hypotheses, all decidable for concrete data except the group law: rig ids distinct, each device mounted on at most
  one rig and once, every rig non-empty, nesting depth at most `n` under every posed device, no device at or below a
  posed device is posed itself at that timestamp (`hsingle`), (timestamp, device) keys distinct.
  Only the left-inverse law of the pose group is needed (associativity is not). -/
theorem recover_remove_nested (mul : G → G → G) (inv : G → G) (rigs : Rigs G)
    (σ : List (Entry G) → List (Entry G)) (hσ : ∀ l c, c ∈ σ l ↔ c ∈ l) (t : List (Entry G)) (n k : Nat)
    (hinv : ∀ a b, mul (inv a) (mul a b) = b)
    (hne : ∀ r ∈ rigs, r.2 ≠ [])
    (hrk : (rigs.map (·.1)).Nodup)
    (hone : (rigs.flatMap (fun r => r.2.map (·.1))).Nodup)
    (hdepth : ∀ e ∈ t, DepthLE rigs n e.dev)
    (hsingle : ∀ e ∈ t, ∀ e' ∈ t, e.ts = e'.ts → e'.dev ∈ belowList rigs n e.dev → e'.dev = e.dev)
    (hkeys : (t.map (fun e => (e.ts, e.dev))).Nodup)
    (hk : n ≤ k) :
    (∀ e ∈ t, isRig rigs e.dev → e.dev ∉ rigs.flatMap (fun r => r.2.map (·.1)) →
      ∃ e' ∈ recoverIter mul inv rigs none σ k (remove mul rigs n t), e'.ts = e.ts ∧ e'.dev = e.dev ∧ e'.g = e.g) ∧
    (∀ e ∈ t, ¬ isRig rigs e.dev → e.dev ∉ rigs.flatMap (fun r => r.2.map (·.1)) →
      e ∈ recoverIter mul inv rigs none σ k (remove mul rigs n t)) := by
  -- a non-empty rig has a member, and without master sensors every member passes the filter
  have key := fun e he htop => recover_remove_unmounted (masters := none) hσ hinv hrk hone hsingle hkeys hk (e := e) he
    (hdepth e he) (fun r _ members hmo => (List.exists_mem_of_ne_nil _ (hne (r, members) (Dict.mem_of_get? hmo))).imp
      fun _ hm => ⟨hm, rfl⟩) htop
  exact ⟨fun e he _ htop => ⟨e, key e he htop, rfl, rfl, rfl⟩, fun e he _ htop => key e he htop⟩

/-- RECOVERY WITH MASTER SENSORS, nested rigs: the same as `recover_remove_nested` with `master_sensors = ms`, provided
  every rig at or below a posed device lists at least one of its members in `ms` (`hmaster`; a member that is itself a
  rig counts only when its own id is in `ms`).  After `remove`, that member (or the sensors below it) is posed at every
  timestamp of the rig, which is the "one posed master member per rig and timestamp" of the property.
  Free sensors are unmounted, so the filter never drops them. -/
theorem recover_remove_masters (mul : G → G → G) (inv : G → G) (rigs : Rigs G) (ms : List String)
    (σ : List (Entry G) → List (Entry G)) (hσ : ∀ l c, c ∈ σ l ↔ c ∈ l) (t : List (Entry G)) (n k : Nat)
    (hinv : ∀ a b, mul (inv a) (mul a b) = b)
    (hrk : (rigs.map (·.1)).Nodup)
    (hone : (rigs.flatMap (fun r => r.2.map (·.1))).Nodup)
    (hdepth : ∀ e ∈ t, DepthLE rigs n e.dev)
    (hsingle : ∀ e ∈ t, ∀ e' ∈ t, e.ts = e'.ts → e'.dev ∈ belowList rigs n e.dev → e'.dev = e.dev)
    (hkeys : (t.map (fun e => (e.ts, e.dev))).Nodup)
    (hmaster : ∀ e ∈ t, ∀ r ∈ belowList rigs n e.dev, ∀ members, membersOf rigs r = some members →
      ∃ m ∈ members, m.1 ∈ ms)
    (hk : n ≤ k) :
    (∀ e ∈ t, isRig rigs e.dev → e.dev ∉ rigs.flatMap (fun r => r.2.map (·.1)) →
      ∃ e' ∈ recoverIter mul inv rigs (some ms) σ k (remove mul rigs n t),
        e'.ts = e.ts ∧ e'.dev = e.dev ∧ e'.g = e.g) ∧
    (∀ e ∈ t, ¬ isRig rigs e.dev → e.dev ∉ rigs.flatMap (fun r => r.2.map (·.1)) →
      e ∈ recoverIter mul inv rigs (some ms) σ k (remove mul rigs n t)) := by
  have key := fun e he htop => recover_remove_unmounted (masters := some ms) hσ hinv hrk hone hsingle hkeys hk (e := e) he
    (hdepth e he) (fun r hr members hmo => (hmaster e he r hr members hmo).imp
      fun _ h => ⟨h.1, List.contains_iff_mem.mpr h.2⟩) htop
  exact ⟨fun e he _ htop => ⟨e, key e he htop, rfl, rfl, rfl⟩, fun e he _ htop => key e he htop⟩

/-- EXACT ROUND TRIP: when the original trajectory poses unmounted devices only (top-level rigs and free sensors), `n`
  or more recovery passes after `remove` give back exactly the original entries, order aside — any nesting depth, with or
  without master sensors (`masters = none` needs only non-empty rigs: `okOf none _ = true`) -/
theorem recover_remove_exact (mul : G → G → G) (inv : G → G) (rigs : Rigs G) (masters : Option (List String))
    (σ : List (Entry G) → List (Entry G)) (hσ : ∀ l c, c ∈ σ l ↔ c ∈ l) (t : List (Entry G)) (n k : Nat)
    (hinv : ∀ a b, mul (inv a) (mul a b) = b)
    (hrk : (rigs.map (·.1)).Nodup)
    (hone : (rigs.flatMap (fun r => r.2.map (·.1))).Nodup)
    (hdepth : ∀ e ∈ t, DepthLE rigs n e.dev)
    (hsrc : ∀ e ∈ t, e.dev ∉ rigs.flatMap (fun r => r.2.map (·.1)))
    (hkeys : (t.map (fun e => (e.ts, e.dev))).Nodup)
    (hmaster : ∀ e ∈ t, ∀ r ∈ belowList rigs n e.dev, ∀ members, membersOf rigs r = some members →
      ∃ m ∈ members, okOf masters m.1 = true)
    (hk : n ≤ k) :
    SameEntries (recoverIter mul inv rigs masters σ k (remove mul rigs n t)) t := by
  -- neither is needed: all original entries are unmounted, and `n` passes undo `n` passes whatever lies deeper
  have _ := hrk
  have _ := hdepth
  have honly : ∀ c ∈ recoverIter mul inv rigs masters σ k (remove mul rigs n t), c ∈ t := by
    intro c hc
    rcases mem_recoverIter_remove hσ hinv hone hk hc with h | ⟨e, he, _, j, _, p, gx, hg, _⟩
    · exact h
    · rw [get?_reverseRigs_eq_none.mpr (hsrc e he)] at hg
      cases hg
  refine sameEntries_of_mem_iff fun e => ⟨honly e, fun he => ?_⟩
  -- the key of `e` is posed again, by an original entry, which the distinct keys make `e`
  obtain ⟨c, hc, hcts, hcdev⟩ := recoverIter_remove_reaches (mul := mul) (inv := inv) hσ hone hk he (hmaster e he)
    (hsrc e he)
  exact Dict.eq_of_nodup_map hkeys (honly c hc) he (Prod.ext hcts hcdev) ▸ hc

/-- recovering after replacing gives back every top-level rig pose and keeps every free entry — for rigs whose members
  are sensors (depth 1), unspecified master sensors, and a trajectory in which no rig member is posed directly.
  SUBSUMED: this is `recover_remove_exact` at `n = k = 1`, `masters = none`, `σ = id`, and is proved from
  it; nesting and master sensors are covered by
  `recover_remove_nested`, `recover_remove_masters` and `recover_remove_exact`.  Kept for the record. -/
theorem recover_remove_depth1_partial (mul : G → G → G) (inv : G → G) (rigs : Rigs G) (t : List (Entry G))
    (hinv : ∀ a b, mul (inv a) (mul a b) = b)
    (hflat : ∀ r members, (r, members) ∈ rigs → members ≠ [] ∧ ∀ m ∈ members, ¬ isRig rigs m.1)
    (hrk : (rigs.map (·.1)).Nodup)
    (hone : (rigs.flatMap (fun r => r.2.map (·.1))).Nodup)      -- each device is mounted on at most one rig, once
    (hsrc : ∀ e ∈ t, (Dict.get? e.dev (reverseRigs inv rigs)).isNone = true)
    (hkeys : (t.map (fun e => (e.ts, e.dev))).Nodup) :
    SameEntries (recoverStep mul inv rigs none (removeStep mul rigs t)) t := by
  have h := recover_remove_exact mul inv rigs none id (fun _ _ => Iff.rfl) t 1 1 hinv hrk hone
    (fun e _ members hmo m hm => (hflat _ _ (Dict.mem_of_get? hmo)).2 m hm)
    (fun e he => unmounted_of_get?_none inv rigs hone e.dev (hsrc e he)) hkeys
    (fun e _ r _ members hmo => by
      obtain ⟨m, hm⟩ := List.exists_mem_of_ne_nil _ (hflat _ _ (Dict.mem_of_get? hmo)).1
      exact ⟨m, hm, rfl⟩)
    (Nat.le_refl 1)
  rwa [remove_one] at h

/-- `recover_remove_nested` in the shape of `recover_remove_statement` (passes chained on the list as produced), for the
  entries of top-level rigs: `k = n` passes do -/
theorem recover_remove_statement_toplevel (mul : G → G → G) (inv : G → G) (rigs : Rigs G) (t : List (Entry G)) (n : Nat)
    (hinv : ∀ a b, mul (inv a) (mul a b) = b)
    (hne : ∀ r ∈ rigs, r.2 ≠ [])
    (hrk : (rigs.map (·.1)).Nodup)
    (hone : (rigs.flatMap (fun r => r.2.map (·.1))).Nodup)
    (hdepth : ∀ e ∈ t, DepthLE rigs n e.dev)
    (hsingle : ∀ e ∈ t, ∀ e' ∈ t, e.ts = e'.ts → e'.dev ∈ belowList rigs n e.dev → e'.dev = e.dev)
    (hkeys : (t.map (fun e => (e.ts, e.dev))).Nodup) :
    ∀ e ∈ t, isRig rigs e.dev → e.dev ∉ rigs.flatMap (fun r => r.2.map (·.1)) →
      ∃ t', (∃ k, t' = (List.range k).foldl (fun cur _ => recoverStep mul inv rigs none cur) (remove mul rigs n t)) ∧
        ∃ e' ∈ t', e'.ts = e.ts ∧ e'.dev = e.dev ∧ e'.g = e.g := by
  intro e he hrig htop
  refine ⟨_, ⟨n, rfl⟩, ?_⟩
  rw [← recoverIter_id_eq]
  exact (recover_remove_nested mul inv rigs id (fun _ _ => Iff.rfl) t n n hinv hne hrk hone hdepth hsingle hkeys
    (Nat.le_refl n)).1 e he hrig htop

/-- the loop as the code runs it — at most `k` passes, stopping at the first pass without a job — ends with the same
  entries as `k` full passes, so `recover_remove_nested`, `recover_remove_masters` and `recover_remove_exact` hold for it
  (`k = max_depth = 10`, `σ = sortEntries`) -/
theorem recoverLoop_same_entries (mul : G → G → G) (inv : G → G) (rigs : Rigs G) (masters : Option (List String))
    (σ : List (Entry G) → List (Entry G)) (hσ : ∀ l c, c ∈ σ l ↔ c ∈ l) (k : Nat) (t : List (Entry G)) :
    SameEntries (recoverLoop mul inv rigs masters σ k t) (recoverIter mul inv rigs masters σ k t) :=
  sameEntries_of_mem_iff (mem_recoverLoop hσ k t)

-- `recover_remove_depth1_partial` is an instance of `recover_remove_exact`
example (mul : G → G → G) (inv : G → G) (rigs : Rigs G) (t : List (Entry G))
    (hinv : ∀ a b, mul (inv a) (mul a b) = b)
    (hflat : ∀ r members, (r, members) ∈ rigs → members ≠ [] ∧ ∀ m ∈ members, ¬ isRig rigs m.1)
    (hrk : (rigs.map (·.1)).Nodup)
    (hone : (rigs.flatMap (fun r => r.2.map (·.1))).Nodup)
    (hsrc : ∀ e ∈ t, (Dict.get? e.dev (reverseRigs inv rigs)).isNone = true)
    (hkeys : (t.map (fun e => (e.ts, e.dev))).Nodup) :
    SameEntries (recoverStep mul inv rigs none (removeStep mul rigs t)) t :=
  recover_remove_depth1_partial mul inv rigs t hinv hflat hrk hone hsrc hkeys

/-- the first wording of the recovery half, kept as a definition: it grants only the group laws and the depth bound, and
  asks for EVERY posed rig.  PROVED for the entries of top-level rigs under the well-formedness hypotheses the property's
  quantifier grants: `recover_remove_statement_toplevel` (this very shape), `recover_remove_nested` (masters = none),
  `recover_remove_masters` (masters = some ms), `recover_remove_exact` (exact round trip).  NOT claimed for a posed rig
  that is itself mounted on an unposed rig: the passes go on and replace its entry by its parent's. -/
def recover_remove_statement (mul : G → G → G) (inv : G → G) (rigs : Rigs G) (masters : Option (List String))
    (t : List (Entry G)) (n : Nat) : Prop :=
  (∀ a b, mul (inv a) (mul a b) = b) → (∀ a b c, mul (mul a b) c = mul a (mul b c)) →
  (∀ e ∈ t, DepthLE rigs n e.dev) →
  ∀ e ∈ t, isRig rigs e.dev →
    ∃ t', (∃ k, t' = (List.range k).foldl (fun cur _ => recoverStep mul inv rigs masters cur) (remove mul rigs n t)) ∧
      ∃ e' ∈ t', e'.ts = e.ts ∧ e'.dev = e.dev ∧ e'.g = e.g

-- non-vacuity: a rig mounted on a rig, poses as integers under addition
example : remove (fun a b => a + b) [("top", [("sub", (10 : Int)), ("camA", 1)]), ("sub", [("camB", 100)])] 10
      [⟨5, "top", 1000⟩, ⟨5, "free", 7⟩]
    = [⟨5, "camB", 1110⟩, ⟨5, "camA", 1001⟩, ⟨5, "free", 7⟩] := by decide +kernel
example : recoverStep (fun a b => a + b) (fun a => -a) [("top", [("camA", (1 : Int)), ("camB", 2)])] none
      [⟨5, "camA", 1001⟩, ⟨5, "camB", 1002⟩, ⟨5, "free", 7⟩]
    = [⟨5, "free", 7⟩, ⟨5, "top", 1000⟩] := by decide +kernel

-- non-vacuity of the recovery theorems: a rig mounted on a rig ("sub" on "top"), poses as integers under addition
example : recoverIter (fun a b => a + b) (fun a => -a)
      [("top", [("sub", (10 : Int)), ("camA", 1)]), ("sub", [("camB", 100), ("camC", 200)])] none id 2
      (remove (fun a b => a + b) [("top", [("sub", (10 : Int)), ("camA", 1)]), ("sub", [("camB", 100), ("camC", 200)])] 2
        [⟨5, "top", 1000⟩, ⟨5, "free", 7⟩, ⟨6, "sub", 50⟩])
    = [⟨5, "free", 7⟩, ⟨5, "top", 1000⟩, ⟨6, "top", 40⟩] := by decide +kernel
-- master sensors: "sub" is recovered from camC only, "top" from "sub" only
example : recoverIter (fun a b => a + b) (fun a => -a)
      [("top", [("sub", (10 : Int)), ("camA", 1)]), ("sub", [("camB", 100), ("camC", 200)])] (some ["camC", "sub"]) id 2
      (remove (fun a b => a + b) [("top", [("sub", (10 : Int)), ("camA", 1)]), ("sub", [("camB", 100), ("camC", 200)])] 2
        [⟨5, "top", 1000⟩, ⟨5, "free", 7⟩])
    = [⟨5, "free", 7⟩, ⟨5, "top", 1000⟩] := by decide +kernel
-- the hypotheses of `recover_remove_nested` / `recover_remove_masters` / `recover_remove_exact` hold on that input
example :
    let rigs : Rigs Int := [("top", [("sub", 10), ("camA", 1)]), ("sub", [("camB", 100), ("camC", 200)])]
    let t : List (Entry Int) := [⟨5, "top", 1000⟩, ⟨5, "free", 7⟩]
    SameEntries (recoverIter (fun a b => a + b) (fun a => -a) rigs (some ["camC", "sub"]) id 2
      (remove (fun a b => a + b) rigs 2 t)) t := by
  intro rigs t
  exact recover_remove_exact (fun a b => a + b) (fun a => -a) rigs (some ["camC", "sub"]) id (fun _ _ => Iff.rfl) t 2 2
    Int.neg_add_cancel_left (by decide +kernel) (by decide +kernel) (by decide +kernel) (by decide +kernel) (by decide +kernel) (by decide +kernel) (Nat.le_refl 2)
example :
    let rigs : Rigs Int := [("top", [("sub", 10), ("camA", 1)]), ("sub", [("camB", 100), ("camC", 200)])]
    let t : List (Entry Int) := [⟨5, "top", 1000⟩, ⟨5, "free", 7⟩, ⟨6, "sub", 50⟩, ⟨6, "camA", 9⟩]
    ∃ e' ∈ recoverIter (fun a b => a + b) (fun a => -a) rigs none sortEntries 2 (remove (fun a b => a + b) rigs 2 t),
      e'.ts = 5 ∧ e'.dev = "top" ∧ e'.g = 1000 := by
  intro rigs t
  exact (recover_remove_nested (fun a b => a + b) (fun a => -a) rigs sortEntries mem_sortEntries t 2 2
    Int.neg_add_cancel_left (by decide +kernel) (by decide +kernel) (by decide +kernel) (by decide +kernel) (by decide +kernel) (by decide +kernel) (Nat.le_refl 2)).1
    ⟨5, "top", 1000⟩ (by decide +kernel) (by decide +kernel) (by decide +kernel)

-- the loop with early exit, max_depth = 10, on the same nested input
example : recoverLoop (fun a b => a + b) (fun a => -a)
      [("top", [("sub", (10 : Int)), ("camA", 1)]), ("sub", [("camB", 100), ("camC", 200)])] none id 10
      (remove (fun a b => a + b) [("top", [("sub", (10 : Int)), ("camA", 1)]), ("sub", [("camB", 100), ("camC", 200)])] 10
        [⟨5, "top", 1000⟩, ⟨5, "free", 7⟩])
    = [⟨5, "free", 7⟩, ⟨5, "top", 1000⟩] := by decide +kernel

end Kapture.C06
