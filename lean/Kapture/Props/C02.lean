/-
  Props/C02.lean — property theorems for C02 (written text files follow the published format; conformant files load as such).
  Property theorems ONLY.  For ALL files, ALL layouts drawn freely per line.
-/
import Kapture.Lemmas.C02

namespace Kapture.C02
open Kapture.Csv Kapture.C01

/-- however a conformant file is laid out — blanks around commas, comment and blank lines anywhere, LF / CRLF / CR line
  ends chosen line by line — the reader extracts exactly the content the specification assigns to it -/
theorem conformant_file_loads (lines : List SpecLine) (eols : List Str) (hw : ∀ l ∈ lines, l.WF) (he : ∀ e ∈ eols, IsEol e)
    (hn : eols.length = lines.length ∨ eols.length + 1 = lines.length) :
    parseFile (glue (lines.map SpecLine.text) eols) = content lines := by
  have _ := hn  -- the count of terminators is immaterial: `glue` ends missing ones with LF and ignores extra ones
  rw [parseFile_glue _ eols (List.forall_mem_map.2 fun l hl => lineOK_text l (hw l hl)) he, map_parseLine_filter lines hw]

/-- two conformant renderings with the same content load alike -/
theorem layout_irrelevant (l₁ l₂ : List SpecLine) (e₁ e₂ : List Str) (h₁ : ∀ l ∈ l₁, l.WF) (h₂ : ∀ l ∈ l₂, l.WF)
    (he₁ : ∀ e ∈ e₁, IsEol e) (he₂ : ∀ e ∈ e₂, IsEol e)
    (hn₁ : e₁.length = l₁.length ∨ e₁.length + 1 = l₁.length) (hn₂ : e₂.length = l₂.length ∨ e₂.length + 1 = l₂.length)
    (hc : content l₁ = content l₂) :
    parseFile (glue (l₁.map SpecLine.text) e₁) = parseFile (glue (l₂.map SpecLine.text) e₂) := by
  rw [conformant_file_loads l₁ e₁ h₁ he₁ hn₁, conformant_file_loads l₂ e₂ h₂ he₂ hn₂, hc]

/-- integers may carry leading zeros (and blanks, stripped with the field) -/
theorem leading_zeros_accepted (k n : Nat) :
    readInt (List.replicate k '0' ++ natDigits (n + 1) n) = some (n : Int) ∧
    readInt ('-' :: (List.replicate k '0' ++ natDigits (n + 1) n)) = some (-(n : Int)) := by
  refine ⟨readInt_zeros_digits k n, ?_⟩
  rw [readInt_neg, readNat_zeros_digits k n]
  rfl

/-- TYPED reading of a conformant trajectory line: whatever the number of leading zeros on the timestamp (and whichever of the
  documented layouts the line came in, by `conformant_file_loads`), the reader finds the same integer, the same device and the
  same pose, missing parts still missing -/
theorem typed_trajectory_line_leading_zeros {F : Type} (c : Codec F) (h : Lawful c) (k n : Nat) (neg : Bool) (dev : Str) (p : Pose F) :
    decodeTrajRow c (((if neg then ['-'] else []) ++ (List.replicate k '0' ++ natDigits (n + 1) n)) :: dev :: poseToList c p) =
      Except.ok ((if neg then -(n : Int) else (n : Int)), dev, p) := by
  obtain ⟨h1, h2⟩ := leading_zeros_accepted k n
  cases neg
  · simp only [Bool.false_eq_true, if_false, List.nil_append, decodeTrajRow, h1, traj_pose_roundtrip c h]
    rfl
  · simp only [if_true, List.singleton_append, decodeTrajRow, h2, traj_pose_roundtrip c h]
    rfl

/-- every file the library writes IS a conformant file: the version line first (a comment), then the column comment, then
  one data line per row with the documented separator; its specification content is the rows written -/
theorem written_file_conforms (file : String) (rows : List (List Str)) (hf : file ∈ Gen.Headers.columns.map (·.1))
    (hr : ∀ r ∈ rows, RowOK r) :
    ∃ (lines : List SpecLine) (eols : List Str), (∀ l ∈ lines, l.WF) ∧ (∀ e ∈ eols, IsEol e) ∧ eols.length = lines.length ∧
      glue (lines.map SpecLine.text) eols = textFile file rows ∧ content lines = rows ∧
      lines.head? = some (SpecLine.comment (S Gen.Headers.formatLine)) := by
  have _ := hf  -- not needed: the header of an unlisted file is the bare comment marker (`headerOf_eq`)
  obtain ⟨body, hw, ht, hc⟩ := rows_specLines (paddingOf file) rows hr
  have hlen : body.length = rows.length := by simpa using congrArg List.length ht
  refine ⟨SpecLine.comment (S Gen.Headers.formatLine) :: SpecLine.comment (headerOf file) :: body,
    List.replicate (rows.length + 2) nl,
    List.forall_mem_cons.2 ⟨formatLine_wf, List.forall_mem_cons.2 ⟨headerOf_wf file, hw⟩⟩,
    fun e he => Or.inl (List.eq_of_mem_replicate he),
    by rw [List.length_replicate, List.length_cons, List.length_cons, hlen], ?_, hc, rfl⟩
  rw [textFile, renderFile_eq_glue, List.map_cons, List.map_cons, ht]
  rfl

/-- so an independent reader written from the specification alone recovers exactly what was saved -/
theorem independent_reader_recovers (file : String) (rows : List (List Str)) (hf : file ∈ Gen.Headers.columns.map (·.1))
    (hr : ∀ r ∈ rows, RowOK r) : parseFile (textFile file rows) = rows :=
  (textFile_roundtrip file rows hf hr).1

/-- code and specification agree on the columns of every file and on the version (restated from C01's tables) -/
theorem columns_match_specification :
    (∀ e ∈ Gen.Headers.columns, ∃ s ∈ Gen.SpecColumns.columns, s.1 = e.1 ∧ s.2.map unalias = e.2) ∧
    Gen.SpecColumns.version = Gen.Headers.currentVersion ∧
    S Gen.Headers.formatLine = S "# kapture format: " ++ S Gen.SpecColumns.version :=
  ⟨columns_agree_with_specification.1, columns_agree_with_specification.2, by
    -- compared as strings: the kernel is slow at turning a string literal into its characters
    have h : Gen.Headers.formatLine = "# kapture format: " ++ Gen.SpecColumns.version := by decide +kernel
    rw [h, S, String.toList_append]
    rfl⟩

end Kapture.C02
