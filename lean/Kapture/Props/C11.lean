/-
  Props/C11.lean — property theorems for C11 (merged reconstructions keep each observation on the same 3-D point and feature).
  Property theorems ONLY.  For ANY number of reconstructions with any number of points and observations.
-/
import Kapture.Lemmas.C11
import Kapture.Gen.MergePoints

namespace Kapture.C11

/-- the merge succeeds whenever the clouds have one width (coloured or colour-less alike) -/
theorem merge_succeeds (rs : List Recon) (h : sameWidth rs) : ∃ out, mergePointsObs rs = Except.ok out := by
  obtain ⟨a, ha⟩ := fold_succeeds rs { started := false, cols := 6, points := [], obs := [] } (fun _ => rfl) h
    (fun hst => by cases hst)
  exact ⟨(a.cols, a.points, a.obs), by unfold mergePointsObs; rw [ha]⟩

/-- the merged cloud is the concatenation of the inputs' clouds in input order -/
theorem points_concatenated (rs : List Recon) (c : Nat) (pts : List Row) (obs : List Obs)
    (h : mergePointsObs rs = Except.ok (c, pts, obs)) : pts = (clouds rs).flatten := (merge_spec h).1

/-- every point keeps its coordinates: point i of input n is point i + offset of the merge -/
theorem point_preserved (rs : List Recon) (c : Nat) (pts : List Row) (obs : List Obs)
    (h : mergePointsObs rs = Except.ok (c, pts, obs))
    (n : Nat) (r : Recon) (p : List Row) (hr : rs[n]? = some r) (hp : r.points = some p) (i : Nat) (hi : i < p.length) :
    pts[i + offsetBefore rs n]? = p[i]? := by
  rw [(merge_spec h).1]
  exact flatten_getElem?_offset rs n r p hr hp i hi

/-- every observation of every input (that has points) is in the merge, on the shifted index, with the same keypoints type,
  image and feature index -/
theorem observation_preserved (rs : List Recon) (c : Nat) (pts : List Row) (obs : List Obs)
    (h : mergePointsObs rs = Except.ok (c, pts, obs))
    (n : Nat) (r : Recon) (p : List Row) (os : List Obs) (hr : rs[n]? = some r) (hp : r.points = some p)
    (ho : r.obs = some os) (o : Obs) (hm : o ∈ os) :
    (o.1 + offsetBefore rs n, o.2) ∈ obs := by
  rw [(merge_spec h).2.1]
  exact (mem_shiftedFrom rs 0 _).mpr ⟨n, r, p, os, o, hr, hp, ho, hm, by rw [Nat.zero_add]⟩

/-- conversely nothing is invented: every merged observation is the shift of an observation of some input -/
theorem observation_origin (rs : List Recon) (c : Nat) (pts : List Row) (obs : List Obs)
    (h : mergePointsObs rs = Except.ok (c, pts, obs)) (o : Obs) (hm : o ∈ obs) :
    ∃ n r p os o', rs[n]? = some r ∧ r.points = some p ∧ r.obs = some os ∧ o' ∈ os ∧
      o = (o'.1 + offsetBefore rs n, o'.2) := by
  rw [(merge_spec h).2.1] at hm
  obtain ⟨n, r, p, os, o', hr, hp, ho, hm', ho'⟩ := (mem_shiftedFrom rs 0 o).mp hm
  exact ⟨n, r, p, os, o', hr, hp, ho, hm', by rw [ho', Nat.zero_add]⟩

/-- observation counts add up (over the inputs that have points) -/
theorem observation_count (rs : List Recon) (c : Nat) (pts : List Row) (obs : List Obs)
    (h : mergePointsObs rs = Except.ok (c, pts, obs)) :
    obs.length = ((rs.filter (fun r => r.points.isSome)).map (fun r => (r.obs.getD []).length)).sum := by
  rw [(merge_spec h).2.1]
  exact length_shiftedFrom rs 0

/-- an observation of input n that designated an existing point still designates the same coordinates -/
theorem observation_same_coordinates (rs : List Recon) (c : Nat) (pts : List Row) (obs : List Obs)
    (h : mergePointsObs rs = Except.ok (c, pts, obs))
    (n : Nat) (r : Recon) (p : List Row) (os : List Obs) (hr : rs[n]? = some r) (hp : r.points = some p)
    (ho : r.obs = some os) (o : Obs) (hm : o ∈ os) (hi : o.1 < p.length) :
    (o.1 + offsetBefore rs n, o.2) ∈ obs ∧ pts[o.1 + offsetBefore rs n]? = p[o.1]? :=
  ⟨observation_preserved rs c pts obs h n r p os hr hp ho o hm, point_preserved rs c pts obs h n r p hr hp o.1 hi⟩

/-- the width of the merge is the common width; without any cloud the result is the default empty coloured cloud -/
theorem width_preserved (rs : List Recon) (c : Nat) (pts : List Row) (obs : List Obs)
    (h : mergePointsObs rs = Except.ok (c, pts, obs)) :
    (∀ r ∈ rs, r.points.isSome = true → r.cols = c) ∧ (clouds rs = [] → c = 6 ∧ pts = [] ∧ obs = []) := (merge_spec h).2.2

-- non-vacuity: a colour-less cloud after an input without points, then a second cloud
example : mergePointsObs [⟨none, 6, some [(0, "sift", "a.jpg", 1)]⟩, ⟨some [["1", "2", "3"]], 3, some [(0, "sift", "a.jpg", 7)]⟩,
                          ⟨some [["4", "5", "6"], ["7", "8", "9"]], 3, some [(1, "r2d2", "b.jpg", 2)]⟩]
    = Except.ok (3, [["1", "2", "3"], ["4", "5", "6"], ["7", "8", "9"]], [(0, "sift", "a.jpg", 7), (2, "r2d2", "b.jpg", 2)]) := by rfl

/-- the loop of merge_points3d_and_observations is, statement for statement, the one Model/C11.lean transcribes: the translator
  (Gen/MergePoints.lean) recognises exactly that loop on every run and refuses anything else -/
theorem merge_code_is_the_model :
    Gen.MergePoints.skipsInputsWithoutPoints = true ∧ Gen.MergePoints.offsetIsCountMergedBefore = true ∧
    Gen.MergePoints.stacksInInputOrder = true ∧ Gen.MergePoints.observationsStartFresh = true ∧
    Gen.MergePoints.shiftsOnlyThePointIndex = true := by
  decide

end Kapture.C11
