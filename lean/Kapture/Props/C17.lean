/-
  Props/C17.lean — property theorems for C17 (an archive is unpacked and marked installed only if its SHA-256 matches).
  Property theorems ONLY.  Every theorem is for EVERY server function (any behaviour, different on every request),
  every prior local state, both values of force and no_cleaning.
-/
import Kapture.Lemmas.C17Gen

namespace Kapture.C17

/-- whatever the server does, an install call extracts at most one archive, and only one whose checksum matches -/
theorem extract_implies_sha (srv : Server) (good : Bytes → Bool) (force noClean : Bool) (w : World) :
    (install srv good force noClean w).1.extracted = w.extracted ∨
    ∃ b, good b = true ∧ (install srv good force noClean w).1.extracted = w.extracted ++ [b] := by
  rcases install_spec srv good force noClean w with ⟨_, _, _, he⟩ | ⟨_, _, he⟩ | ⟨_, _, _, he⟩
  · exact Or.inl he
  · exact Or.inl he
  · exact Or.inr he

/-- the dataset is marked installed afterwards only if this call extracted a verified archive,
  or it was already marked and force was not given -/
theorem marked_implies (srv : Server) (good : Bytes → Bool) (force noClean : Bool) (w : World)
    (h : (install srv good force noClean w).1.installed = true) :
    (∃ b, good b = true ∧ (install srv good force noClean w).1.extracted = w.extracted ++ [b]) ∨
    (w.installed = true ∧ force = false ∧ (install srv good force noClean w).1.extracted = w.extracted) := by
  rcases install_spec srv good force noClean w with ⟨_, ⟨hw, hf⟩, _, he⟩ | ⟨_, hi, _⟩ | ⟨_, _, _, he⟩
  · exact Or.inr ⟨hw, hf, he⟩
  · rw [hi] at h; cases h
  · exact Or.inl he

/-- any other outcome (a reported status other than installed, or an exception) leaves nothing extracted and nothing marked -/
theorem failure_leaves_nothing (srv : Server) (good : Bytes → Bool) (force noClean : Bool) (w : World)
    (h : (install srv good force noClean w).2 ≠ Except.ok Status.installed) :
    (install srv good force noClean w).1.extracted = w.extracted ∧
    (install srv good force noClean w).1.installed = false := by
  rcases install_spec srv good force noClean w with ⟨hr, _⟩ | ⟨_, hi, he⟩ | ⟨hr, _⟩
  · exact absurd hr h
  · exact ⟨he, hi⟩
  · exact absurd hr h

/-- a reported success that was not a mere "already installed" did extract a verified archive -/
theorem success_means_verified (srv : Server) (good : Bytes → Bool) (force noClean : Bool) (w : World)
    (h : (install srv good force noClean w).2 = Except.ok Status.installed) (hn : w.installed = false ∨ force = true) :
    ∃ b, good b = true ∧ (install srv good force noClean w).1.extracted = w.extracted ++ [b] ∧
      (install srv good force noClean w).1.installed = true := by
  rcases install_spec srv good force noClean w with ⟨_, ⟨hw, hf⟩, _⟩ | ⟨hr, _⟩ | ⟨_, _, hi, b, hg, he⟩
  · rcases hn with hn | hn
    · rw [hw] at hn; cases hn
    · rw [hf] at hn; cases hn
  · exact absurd h hr
  · exact ⟨b, hg, he, hi⟩

/-- the status `downloaded` is only ever reported for a present archive whose checksum matches -/
theorem downloaded_means_verified (srv : Server) (good : Bytes → Bool) (w : World)
    (h : (probStatus srv good w).2 = Except.ok Status.downloaded) :
    ∃ b, (probStatus srv good w).1.archive = some b ∧ good b = true := by
  have hj := (probStatus_spec srv good w (Prod.eta _).symm).2.1
  rwa [h] at hj

/-- non-vacuity / liveness: against an honest server a fresh install succeeds and extracts exactly the content -/
theorem honest_server_installs (content : Bytes) (good : Bytes → Bool) (hg : good content = true) (noClean : Bool)
    (w : World) (h0 : w.archive = none) (h1 : w.installed = false) :
    (install (honest content) good false noClean w).2 = Except.ok Status.installed ∧
    (install (honest content) good false noClean w).1.extracted = w.extracted ++ [content] := by
  simp [install, probStatus, download, downloadLoop, downloadFile, downloadResume, remoteSize, request, honest,
    h0, h1, hg]
  cases noClean <;> simp

/-- ... and a partial archive that is a prefix of the content is resumed to the full content -/
theorem honest_server_resumes (content : Bytes) (good : Bytes → Bool) (hg : good content = true) (k : Nat)
    (hk : 0 < k) (hk2 : k < content.length) (w : World) (h0 : w.archive = some (content.take k)) (h1 : w.installed = false) :
    (install (honest content) good false true w).1.extracted = w.extracted ++ [content] := by
  have hlen : (content.take k).length = k := by rw [List.length_take]; omega
  have hne : content.length ≠ k := by omega
  have hk0 : k ≠ 0 := by omega
  have hnlt : ¬ content.length < k := by omega
  have hc0 : content.length ≠ 0 := by omega
  simp [install, probStatus, download, downloadLoop, downloadFile, downloadResume, remoteSize, request, honest,
    h0, h1, hg, hlen, hne, hk0, hk2, hnlt, hc0, List.take_append_drop]

/-- the hand-written `probStatus` IS the decision list GENERATED from Dataset.prob_status on every run (Gen/ProbStatus.lean: the
  ordered conditions marker / no archive / size unknown / bigger / smaller / checksum mismatch and the default `downloaded`; the
  translator also checks that is_sha256_consistent hashes the archive and compares it with the published checksum and nothing
  else, and that install() tests `status != 'downloaded'` before untar_file): whenever the model answers, it answers what the
  first matching generated rule says -/
theorem probStatus_follows_generated_rules (srv : Server) (good : Bytes → Bool) (w : World) :
    match (probStatus srv good w).2 with
    | Except.ok st =>
      statusOfName (evalRules (atomEnv good w (match (remoteSize srv w).2 with
        | Except.ok s => s
        | Except.error _ => none)) Gen.ProbStatus.rules Gen.ProbStatus.defaultStatus) = some st
    | Except.error _ => True := by
  -- the generated list evaluated once, against the conditions as `atomEnv` reads them off the world ...
  simp only [Gen.ProbStatus.rules, Gen.ProbStatus.defaultStatus, evalRules, atomEnv]
  -- ... then along each branch of `probStatus` the conditions met on the way single out the rule
  fun_cases probStatus srv good w
  all_goals simp [*, statusOfName]

/-- ... and the status under which the model extracts is the generated gate of install() -/
theorem install_gate_is_generated : statusOfName Gen.ProbStatus.installGate = some Status.downloaded := by
  rw [Gen.ProbStatus.installGate, statusOfName]

/-- HISTORIES: whatever sequence of invocations is made on one install directory (any flags, any server behaviour, each
  starting from whatever the previous ones left on disk), everything ever extracted along the way has the published
  checksum -/
theorem history_extracts_only_verified (good : Bytes → Bool) (calls : List Call) (w : World) :
    ∃ bs, (runCalls good calls w).1.extracted = w.extracted ++ bs ∧ ∀ b ∈ bs, good b = true := by
  obtain ⟨bs, he, hg, -⟩ := runCalls_extends good calls w
  exact ⟨bs, he, hg⟩

/-- ... and the dataset is marked installed at the end of a history only if it was marked before it or some invocation of
  the history extracted a verified archive -/
theorem history_marked_implies (good : Bytes → Bool) (calls : List Call) (w : World)
    (h : (runCalls good calls w).1.installed = true) :
    w.installed = true ∨ ∃ b bs, good b = true ∧ (runCalls good calls w).1.extracted = w.extracted ++ b :: bs := by
  obtain ⟨bs, he, hg, hi⟩ := runCalls_extends good calls w
  refine (hi h).imp_right fun hne => ?_
  obtain ⟨b, bs', rfl⟩ := List.exists_cons_of_ne_nil hne
  exact ⟨b, bs', hg b List.mem_cons_self, he⟩

/-- a history made of one invocation is that invocation -/
theorem history_single (good : Bytes → Bool) (c : Call) (w : World) :
    runCalls good [c] w = ((install c.srv good c.force c.noClean { w with reqs := 0, log := [] }).1,
                           [(install c.srv good c.force c.noClean { w with reqs := 0, log := [] }).2]) := by
  simp [runCalls]

end Kapture.C17
