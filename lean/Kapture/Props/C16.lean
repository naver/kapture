/-
  Props/C16.lean — property theorems for C16 (loading or upgrading a dataset treats file contents purely as data).
  Property theorems ONLY.
-/
import Kapture.Lemmas.C16
import Kapture.Lemmas.C01Typed

namespace Kapture.C16
open Kapture.C20

/-- whatever string stands in the element-type field, the outcome is a lookup in a finite table: either one of the
  accepted types, or an error — nothing is evaluated -/
theorem parseDtype_is_table_lookup (s : String) :
    (∃ t, parseDtype s = Except.ok t ∧ (s, t) ∈ Gen.DtypeNames.accepted) ∨ parseDtype s = Except.error "ValueError" := by
  cases h : List.find? (fun e => e.1 == s) Gen.DtypeNames.accepted with
  | none => exact Or.inr (parseDtype_of_find_none s h)
  | some e =>
    refine Or.inl ⟨e.2, parseDtype_of_find_some s e h, ?_⟩
    have hp := List.find?_some h
    rw [← beq_iff_eq.mp hp]
    exact List.mem_of_find?_eq_some h

/-- expressions with side effects are not accepted element types -/
theorem parseDtype_rejects_expressions :
    parseDtype "__import__('os').system('id')" = Except.error "ValueError" ∧
    parseDtype "float32; import os" = Except.error "ValueError" ∧
    parseDtype "open('/tmp/x','w')" = Except.error "ValueError" ∧
    parseDtype "" = Except.error "ValueError" ∧
    parseDtype "float32" = Except.ok "float32" := by
  have h := @parseDtype_rejects ["__import__('os').system('id')", "float32; import os", "open('/tmp/x','w')", ""]
    (by decide +kernel)
  exact ⟨h (.head _), h (.tail _ (.head _)), h (.tail _ (.tail _ (.head _))), h (.tail _ (.tail _ (.tail _ (.head _)))),
    parseDtype_of_find_some _ ("float32", "float32") (by decide +kernel)⟩

/-- loading only reads, and only files that are present under the directory -/
theorem load_effects_are_reads_inside (present : List String) (current : Bool) (h : ∀ f ∈ present, inside f = true) :
    ∀ e ∈ loadReads present current, e.isRead = true ∧ e.inside = true ∧ ∃ f ∈ present, e = Effect.read f := by
  intro e he
  unfold loadReads at he
  simp only [List.mem_map, List.mem_append] at he
  obtain ⟨f, hf, rfl⟩ := he
  have hp : f ∈ present := by
    rcases hf with hf | hf
    · have := (List.mem_filter.mp hf).2
      simp only [Bool.and_eq_true, List.contains_iff_mem] at this
      exact this.1
    · split at hf
      · exact (List.mem_filter.mp hf).1
      · simp at hf
  exact ⟨rfl, h f hp, f, hp, rfl⟩

/-- the names the upgrade derives from file CONTENT cannot leave the folder they belong to -/
theorem nameOK_single_component (n : String) (h : nameOK n = true) (hne : n ≠ "") :
    ¬ n.contains '/' ∧ n ≠ ".." ∧ n ≠ "." := by
  have _ := hne  -- not needed: the three conclusions are tests `nameOK` makes itself
  unfold nameOK at h
  simp only [Bool.and_eq_true, Bool.not_eq_true', bne_iff_ne, ne_eq] at h
  obtain ⟨⟨⟨h1, _⟩, h3⟩, h4⟩ := h
  exact ⟨by simp [h1], h4, h3⟩

/-- every move of the upgrade plan goes from a file of the tree to a path in the same feature folder, one level down:
  destination = folder / type / same relative name -/
theorem upgrade_moves_stay_in_folder (p : Params) (t : Tree) (pl : Plan) (h : plan p t = Except.ok pl)
    (f : FolderPlan) (hf : f ∈ pl.folders) (m : Move) (hm : m ∈ f.moves) :
    ∃ dir ty rel, m.src = dir ++ "/" ++ rel ∧ m.dst = dir ++ "/" ++ ty ++ "/" ++ rel ∧
      dir ∈ ["reconstruction/keypoints", "reconstruction/descriptors", "reconstruction/matches", "reconstruction/global_features"] := by
  obtain ⟨dir, ty, ext, hmoves, hdir⟩ := plan_folders_moves h hf
  rw [hmoves] at hm
  obtain ⟨rel, -, rfl⟩ := List.mem_map.mp hm
  exact ⟨dir, ty, rel, rfl, rfl, hdir⟩

/-- "A field that is not a valid value is reported as an error", for the numbers of the table files, on the typed model of the
  readers (Model/C01Typed.lean, tied to the code by the C01 correspondence): a trajectory row whose timestamp is not an integer,
  or one of whose pose fields is neither a float nor part of an all-empty group, is a ValueError -/
theorem bad_trajectory_timestamp_is_an_error {F : Type} (c : C01.Codec F) (ts dev : Csv.Str) (pose : List Csv.Str)
    (h : Csv.readInt ts = none) : ∃ e, C01.decodeTrajRow c (ts :: dev :: pose) = Except.error e := by
  unfold C01.decodeTrajRow
  dsimp only
  rw [h]
  exact ⟨_, rfl⟩

/-- ... and a rig row one of whose pose fields is neither a float nor blank (the D30 fix: such a field used to make the rotation or
  the translation of the rig silently disappear) -/
theorem bad_rig_number_is_an_error {F : Type} (c : C01.Codec F) (qw qx qy qz tx ty tz bad : Csv.Str)
    (hm : bad ∈ [qw, qx, qy, qz, tx, ty, tz]) (hbad : c.parse bad = none) (hnb : Csv.strip bad ≠ []) :
    C01.rigPoseOfFields c [qw, qx, qy, qz, tx, ty, tz] = Except.error C01.DecodeErr.value :=
  C01.rig_bad_number_is_an_error c qw qx qy qz tx ty tz bad hm hbad hnb

/-- ... and a trajectory row one of whose pose fields is given and is not a float, whether or not the other fields of its group are
  given (the D31 fix: a field next to an empty one was not looked at) -/
theorem bad_trajectory_number_is_an_error {F : Type} (c : C01.Codec F) (qw qx qy qz tx ty tz bad : Csv.Str)
    (hm : bad ∈ [qw, qx, qy, qz, tx, ty, tz]) (hbad : c.parse bad = none) (hnb : bad ≠ []) :
    ∃ e, C01.trajPoseOfFields c [qw, qx, qy, qz, tx, ty, tz] = Except.error e :=
  C01.traj_bad_number_is_an_error c qw qx qy qz tx ty tz bad hm hbad hnb

/-- ... and a record row (gnss, accelerometer, gyroscope, magnetic; the signal rows of wifi and bluetooth go through the same
  `decodeFields`) one of whose fields its DECLARED type cannot read (the types are those of Gen/RecordSchemas.lean, regenerated
  from the record classes): the row is an error wherever the field stands -/
theorem bad_record_field_is_an_error {F : Type} (c : C01.Codec F) (tys : List Gen.RecordSchemas.Ty) (ts dev : Csv.Str)
    (toks : List Csv.Str) (i : Nat) (hi : i < tys.length) (hlen : tys.length = toks.length)
    (hbad : C01.decodeVal c (tys[i]) (toks[i]'(hlen ▸ hi)) = none) :
    ∃ e, C01.decodeRecordRow c tys (ts :: dev :: toks) = Except.error e := by
  unfold C01.decodeRecordRow
  dsimp only
  cases Csv.readInt ts with
  | none => exact ⟨_, rfl⟩
  | some t =>
    obtain ⟨e, he⟩ := C01.decodeFields_bad c tys toks i hi hlen hbad
    rw [he]
    exact ⟨e, rfl⟩

end Kapture.C16
