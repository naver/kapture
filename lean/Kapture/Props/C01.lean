/-
  Props/C01.lean — property theorems for C01 (saving a dataset and loading it back returns the same dataset), at the layer the
  model covers: files, headers, padding, row order and flattening on top of the proved text layer (Props/Csv.lean).
  Property theorems ONLY.  For ALL datasets: any number of rows, any tokens satisfying the explicit well-formedness predicates.
-/
import Kapture.Lemmas.C01Typed
import Kapture.Lemmas.C01Points

namespace Kapture.C01
open Kapture.Csv Kapture.Gen.RecordSchemas

/-- the generated version line and every generated header are comment lines without line breaks -/
theorem headers_wellformed :
    ((S Gen.Headers.formatLine).head? = some '#' ∧ '\n' ∉ S Gen.Headers.formatLine ∧ '\r' ∉ S Gen.Headers.formatLine) ∧
    ∀ e ∈ Gen.Headers.columns, (headerOf e.1).head? = some '#' ∧ '\n' ∉ headerOf e.1 ∧ '\r' ∉ headerOf e.1 :=
  ⟨formatLine_wf, fun e _ => headerOf_wf e.1⟩

/-- every text file the model writes reads back to exactly its rows, and re-saving those rows is byte-identical -/
theorem textFile_roundtrip (file : String) (rows : List (List Str)) (hf : file ∈ Gen.Headers.columns.map (·.1))
    (hr : ∀ r ∈ rows, RowOK r) :
    parseFile (textFile file rows) = rows ∧ textFile file (parseFile (textFile file rows)) = textFile file rows := by
  have _ := hf  -- not needed: the header of an unlisted file is the bare comment marker (`headerOf_eq`)
  have h1 : parseFile (textFile file rows) = rows :=
    parseFile_renderFile _ _ _ rows formatLine_wf (headerOf_wf file) hr
  exact ⟨h1, by rw [h1]⟩

/-- the version line comes first in every file -/
theorem version_line_first (file : String) (rows : List (List Str)) :
    (textFile file rows).take (S Gen.Headers.formatLine).length = S Gen.Headers.formatLine := by
  unfold textFile renderFile
  simp only [List.append_assoc]
  exact List.take_left' rfl

/-- sorting rows for output neither loses nor duplicates an entry -/
theorem sortBy_perm {α : Type} (le : α → α → Bool) (l : List α) : (sortBy le l).Perm l :=
  sortBy_perm' le l

/-- trajectories: one row per entry, every row survives the text layer, timestamps parse back to the same integer
  (negative and 19-digit ones included) -/
theorem trajectories_roundtrip (t : List (Int × Str × List Str))
    (h : ∀ e ∈ t, IdOK e.2.1 ∧ ∀ x ∈ e.2.2, TokOK x) :
    parseFile (textFile "trajectories.txt" (trajectoryRows t)) = trajectoryRows t ∧
    (trajectoryRows t).Perm (t.map (fun e => showInt e.1 :: e.2.1 :: e.2.2)) ∧
    ∀ e ∈ t, readInt (showInt e.1) = some e.1 := by
  have hrows : ∀ r ∈ trajectoryRows t, RowOK r := rowOK_map_sortBy _ _ t fun e he =>
    rowOK_showInt e.1 _ (List.forall_mem_cons.2 ⟨(h e he).1.1, (h e he).2⟩)
  exact ⟨(textFile_roundtrip _ _ (mem_known_files _ (List.mem_append_left _ (by simp))) hrows).1, (sortBy_perm _ t).map _,
    fun e _ => readInt_showInt e.1⟩

/-- records stored as files (camera, depth, lidar) -/
theorem file_records_roundtrip (file : String) (hf : file ∈ ["records_camera.txt", "records_depth.txt", "records_lidar.txt"])
    (t : List (Int × Str × Str)) (h : ∀ e ∈ t, IdOK e.2.1 ∧ TokOK e.2.2) :
    parseFile (textFile file (fileRecordRows t)) = fileRecordRows t ∧
    (fileRecordRows t).Perm (t.map (fun e => [showInt e.1, e.2.1, e.2.2])) := by
  have hfile := mem_known_files file (List.mem_append_right _ (List.mem_append_left _ hf))
  have hrows : ∀ r ∈ fileRecordRows t, RowOK r := rowOK_map_sortBy _ _ t fun e he =>
    rowOK_showInt e.1 _ (List.forall_mem_cons.2 ⟨(h e he).1.1, List.forall_mem_singleton.2 (h e he).2⟩)
  exact ⟨(textFile_roundtrip file _ hfile hrows).1, (sortBy_perm _ t).map _⟩

/-- records stored as values (gnss, accelerometer, gyroscope, magnetic) -/
theorem generic_records_roundtrip (file : String)
    (hf : file ∈ ["records_gnss.txt", "records_accelerometer.txt", "records_gyroscope.txt", "records_magnetic.txt"])
    (t : List (Int × Str × List Str)) (h : ∀ e ∈ t, IdOK e.2.1 ∧ ∀ x ∈ e.2.2, TokOK x) :
    parseFile (textFile file (genericRecordRows t)) = genericRecordRows t := by
  have hfile := mem_known_files file (List.mem_append_right _ (List.mem_append_right _ (List.mem_append_left _ hf)))
  have hrows : ∀ r ∈ genericRecordRows t, RowOK r := rowOK_map_sortBy _ _ t fun e he =>
    rowOK_showInt e.1 _ (List.forall_mem_cons.2 ⟨(h e he).1.1, (h e he).2⟩)
  exact (textFile_roundtrip file _ hfile hrows).1

/-- wifi / bluetooth: one row per signal, keyed by (timestamp, device, address) -/
theorem wifi_roundtrip (file : String) (hf : file ∈ ["records_wifi.txt", "records_bluetooth.txt"]) (t : List Wifi)
    (h : ∀ w ∈ t, IdOK w.dev ∧ ∀ s ∈ w.signals, TokOK s.1 ∧ ∀ x ∈ s.2, TokOK x) :
    parseFile (textFile file (wifiRows t)) = wifiRows t ∧
    (wifiRows t).length = (t.map (fun w => w.signals.length)).sum := by
  have hfile := mem_known_files file (List.mem_append_right _ (List.mem_append_right _ (List.mem_append_right _ hf)))
  have hrows : ∀ r ∈ wifiRows t, RowOK r := fun r hr => by
    obtain ⟨w, hw, hr⟩ := List.mem_flatMap.1 hr
    obtain ⟨s, hs, rfl⟩ := List.mem_map.1 hr
    have hw := h w ((mem_sortBy _ t w).1 hw)
    exact rowOK_showInt w.ts _ (List.forall_mem_cons.2 ⟨hw.1.1, List.forall_mem_cons.2 (hw.2 s hs)⟩)
  refine ⟨(textFile_roundtrip file _ hfile hrows).1, ?_⟩
  rw [wifiRows, List.length_flatMap]
  simp only [List.length_map]
  exact ((sortBy_perm _ t).map _).sum_nat

/-- observations: one row per (point, keypoints type) with its (image, feature) pairs flattened in order -/
theorem observations_roundtrip (t : List Obs)
    (h : ∀ o ∈ t, TokOK o.kt ∧ ∀ p ∈ o.pairs, TokOK p.1 ∧ TokOK p.2) :
    parseFile (textFile "observations.txt" (observationRows t)) = observationRows t := by
  have hrows : ∀ r ∈ observationRows t, RowOK r := rowOK_map_sortBy _ _ t fun o ho =>
    rowOK_showInt o.idx _ (List.forall_mem_cons.2 ⟨(h o ho).1, fun f hf => by
      obtain ⟨p, hp, hfp⟩ := List.mem_flatMap.1 hf
      exact List.forall_mem_cons.2 ⟨((h o ho).2 p hp).1, List.forall_mem_singleton.2 ((h o ho).2 p hp).2⟩ f hfp⟩)
  exact (textFile_roundtrip _ _ (mem_known_files _ (List.mem_append_left _ (by simp))) hrows).1

/-- sensors and rigs are written in dictionary order as they are -/
theorem sensors_rigs_roundtrip (rows : List (List Str)) (h : ∀ r ∈ rows, RowOK r) :
    parseFile (textFile "sensors.txt" rows) = rows ∧ parseFile (textFile "rigs.txt" rows) = rows :=
  ⟨(textFile_roundtrip "sensors.txt" rows (mem_known_files _ (List.mem_append_left _ (by simp))) h).1,
   (textFile_roundtrip "rigs.txt" rows (mem_known_files _ (List.mem_append_left _ (by simp))) h).1⟩

/-- a pose with or without rotation, with or without translation, comes back as it is through BOTH pose readers (the one of
  trajectories.txt and the one of rigs.txt, which are written differently) -/
theorem pose_roundtrip {F : Type} (c : Codec F) (h : Lawful c) (p : Pose F) :
    trajPoseOfFields c (poseToList c p) = Except.ok p ∧ rigPoseOfFields c (poseToList c p) = Except.ok p :=
  ⟨traj_pose_roundtrip c h p, rig_pose_roundtrip c h p⟩

/-- TYPED trajectories: writing any trajectory (any number of entries, negative and 19-digit timestamps, partial poses) and
  decoding every row of the file that was written yields exactly the entries, sorted by (timestamp, device): same keys, same
  integers, the same floats, missing parts still missing -/
theorem typed_trajectories_roundtrip {F : Type} (c : Codec F) (h : Lawful c) (t : List (Int × Str × Pose F))
    (hid : ∀ e ∈ t, IdOK e.2.1) :
    (parseFile (textFile "trajectories.txt" (trajectoryRows (t.map (trajEntryTokens c))))).map (decodeTrajRow c) =
      (sortBy (fun a b => keyLe (a.1, a.2.1) (b.1, b.2.1)) t).map Except.ok := by
  have h1 := (trajectories_roundtrip (t.map (trajEntryTokens c))
    (List.forall_mem_map.2 fun e he => ⟨hid e he, poseToList_fieldOK c h e.2.2⟩)).1
  rw [h1, trajectoryRows, sortBy_map (fun a b => keyLe (a.1, a.2.1) (b.1, b.2.1)) _ (trajEntryTokens c) (fun a b => rfl),
    List.map_map, List.map_map]
  exact List.map_congr_left fun e _ => decodeTrajRow_tokens c h e

/-- TYPED rigs: rows in dictionary order, every (rig, device, pose) comes back -/
theorem typed_rigs_roundtrip {F : Type} (c : Codec F) (h : Lawful c) (rigs : List (Str × Str × Pose F))
    (hid : ∀ e ∈ rigs, IdOK e.1 ∧ e.1.head? ≠ some '#' ∧ FieldOK e.2.1) :
    (parseFile (textFile "rigs.txt" (rigs.map (rigRow c)))).map (decodeRigRow c) = rigs.map Except.ok := by
  have h1 := (sensors_rigs_roundtrip (rigs.map (rigRow c)) (List.forall_mem_map.2 fun e he => by
    obtain ⟨h1, h2, h3⟩ := hid e he
    exact ⟨List.forall_mem_cons.2 ⟨h1.1, List.forall_mem_cons.2 ⟨h3, poseToList_fieldOK c h _⟩⟩, e.1, _, rfl, h1.2, h2⟩)).2
  rw [h1, List.map_map]
  exact List.map_congr_left fun e _ => decodeRigRow_rigRow c h e

/-- TYPED records stored as values: for each of the four files, entries whose fields have the types DECLARED by the record class
  (Gen/RecordSchemas.lean, from dataclasses.fields of the live class) come back with the same integers, floats and strings -/
theorem typed_generic_records_roundtrip {F : Type} (c : Codec F) (h : Lawful c) (file : String)
    (hf : file ∈ ["records_gnss.txt", "records_accelerometer.txt", "records_gyroscope.txt", "records_magnetic.txt"])
    (t : List (Int × Str × List (Val F)))
    (ht : ∀ e ∈ t, IdOK e.2.1 ∧ e.2.2.map Val.ty = schemaOf file ∧ ∀ v ∈ e.2.2, ∀ s, v = Val.str s → FieldOK s) :
    (parseFile (textFile file (genericRecordRows (t.map (recordEntryTokens c))))).map (decodeRecordRow c (schemaOf file)) =
      (sortBy (fun a b => keyLe (a.1, a.2.1) (b.1, b.2.1)) t).map Except.ok := by
  have h1 := generic_records_roundtrip file hf (t.map (recordEntryTokens c)) (List.forall_mem_map.2 fun e he =>
    ⟨(ht e he).1, List.forall_mem_map.2 fun v hv => renderVal_fieldOK c h v ((ht e he).2.2 v hv)⟩)
  rw [h1, genericRecordRows, sortBy_map (fun a b => keyLe (a.1, a.2.1) (b.1, b.2.1)) _ (recordEntryTokens c) (fun a b => rfl),
    List.map_map, List.map_map]
  refine List.map_congr_left fun e he => ?_
  rw [← (ht e ((mem_sortBy _ t e).1 he)).2.1]
  exact decodeRecordRow_tokens c h e

/-- the fields a record class declares are, name for name, the columns its writer announces after timestamp and device -/
theorem schemas_match_headers :
    ∀ e ∈ generic, ∃ h ∈ Gen.Headers.columns, h.1 = e.1 ∧ h.2 = ["timestamp", "device_id"] ++ e.2.map (·.1) := by
  decide +kernel

/-- TYPED records stored as files and observations: timestamps, point indices and feature indices come back as the same
  integers, names as the same strings -/
theorem typed_file_record_row (ts : Int) (dev path : Str) : decodeFileRecordRow [showInt ts, dev, path] = Except.ok (ts, dev, path) := by
  simp [decodeFileRecordRow, readInt_showInt]

theorem typed_observation_row (idx : Int) (kt : Str) (pairs : List (Str × Int)) :
    decodeObservationRow (showInt idx :: kt :: pairs.flatMap (fun p => [p.1, showInt p.2])) = Except.ok (idx, kt, pairs) := by
  have hp : decodePairs (pairs.flatMap (fun p => [p.1, showInt p.2])) = Except.ok pairs := by
    induction pairs with
    | nil => rfl
    | cons p ps ih =>
      simp only [List.flatMap_cons, List.cons_append, List.nil_append, decodePairs, readInt_showInt, ih]
      rfl
  simp only [decodeObservationRow, readInt_showInt, hp]
  rfl

/-- TYPED radio signals (wifi, bluetooth): a signal's fields of the declared types come back as they were -/
theorem typed_signal_row {F : Type} (c : Codec F) (h : Lawful c) (ts : Int) (dev addr : Str) (vs : List (Val F)) :
    decodeSignalRow c (vs.map Val.ty) (showInt ts :: dev :: addr :: vs.map (renderVal c)) = Except.ok (ts, dev, addr, vs) := by
  simp only [decodeSignalRow, readInt_showInt, fields_roundtrip c h]
  rfl

-- non-vacuity of `Lawful`: integers rendered in decimal are a lawful codec
example : Lawful ({ render := showInt, parse := readInt } : Codec Int) :=
  ⟨readInt_showInt, fun x => ⟨(showInt_fieldOK x).1, (showInt_fieldOK x).2.1⟩, rfl⟩

/-- 3-D POINT COORDINATES: the writer prints each number with `Gen.Headers.pointsDecimals` digits after the point (regenerated from
    the fmt of points3d_to_file), i.e. as a whole count of 10^-d units nearest to the value.  For EVERY value and WHICHEVER nearest
    count is printed (no assumption on the tie rule), the number read back is within 1e-10 of the value — in fact within half that -/
theorem points_within_1e10 (x : Rat) (n : Int) (h : Nearest Gen.Headers.pointsDecimals x n) :
    |x - readUnits Gen.Headers.pointsDecimals n| ≤ 1 / 10 ^ 10 := by
  have h1 := nearest_within _ x n h
  have h2 : (1 : Rat) / (2 * scale Gen.Headers.pointsDecimals) ≤ 1 / 10 ^ 10 := by
    unfold scale Gen.Headers.pointsDecimals; norm_num
  exact le_trans h1 h2

/-- every value has such a count: nothing is unwritable -/
theorem points_writable (x : Rat) : ∃ n, Nearest Gen.Headers.pointsDecimals x n := ⟨_, nearest_round _ x⟩

/-- saving the RELOADED points again: a value that was read from a count of units can only be printed as that same count, so the
    second points3d.txt has the same numbers digit for digit -/
theorem points_resave_same_units (m n : Int) (h : Nearest Gen.Headers.pointsDecimals (readUnits Gen.Headers.pointsDecimals m) n) :
    n = m := nearest_of_units _ m n h

/-- non-vacuity and the reader of tokens: "-12.0000000035" is 120000000035 units below zero, nearest to -12.00000000351 -/
example : unitsOfToken Gen.Headers.pointsDecimals "-12.0000000035".toList = some (-120000000035) ∧
    Nearest Gen.Headers.pointsDecimals (-1200000000351 / 100000000000) (-120000000035) := by
  constructor
  · rw [String.toList_ofList]
    decide +kernel
  · unfold Nearest scale Gen.Headers.pointsDecimals; norm_num

/-- the columns the code writes are, file by file and position by position, the columns the specification documents
  (modulo the five documented aliases), and both agree on the format version -/
theorem columns_agree_with_specification :
    (∀ e ∈ Gen.Headers.columns, ∃ s ∈ Gen.SpecColumns.columns, s.1 = e.1 ∧ s.2.map unalias = e.2) ∧
    Gen.SpecColumns.version = Gen.Headers.currentVersion := by
  decide +kernel

-- non-vacuity: a trajectory with a negative, a 19-digit timestamp and a missing translation
example : trajectoryRows [(9223372036854775807, S "cam", [S "1.0", S "", S "", S ""]), (-5, S "ünï cam", [S "0.5"])]
    = [[S "-5", S "ünï cam", S "0.5"], [S "9223372036854775807", S "cam", S "1.0", S "", S "", S ""]] := by
  unfold S
  repeat rw [String.toList_ofList]  -- see Props/Csv.lean
  decide +kernel

end Kapture.C01
