/-
  Props/Csv.lean — the text-layer theorems shared by C01 (save/load round trip) and C02 (format conformance).
  For ALL field contents, ALL numbers of rows and columns, ALL paddings, ALL layouts.
-/
import Kapture.Lemmas.Csv

namespace Kapture.Csv

/-- layout freedom inside a line: any blanks around any field are ignored -/
theorem parseLine_decorated (ls rs fields : List Str) (hl : ls.length = fields.length) (hr : rs.length = fields.length)
    (hne : fields ≠ []) (hbl : ∀ l ∈ ls, AllSpace l) (hbr : ∀ r ∈ rs, AllSpace r) (h : ∀ f ∈ fields, FieldOK f) :
    parseLine (joinWith [','] (decorate ls rs fields)) = fields := by
  have hs := map_strip_decorate ls rs fields hl hr hbl hbr fun f hf => (h f hf).2.2.2
  rw [parseLine_joinWith_comma _ (fun e => hne (by rw [← hs, e]; rfl)) ?_, hs]
  exact not_mem_decorate ',' ls rs fields (fun l hl => not_mem_of_allSpace (hbl l hl) (by decide))
    (fun r hr => not_mem_of_allSpace (hbr r hr) (by decide)) fun f hf => (h f hf).1

/-- a written line parses back to exactly its fields, whatever the right-justification widths -/
theorem parseLine_renderRow (pad : Option (List Nat)) (fields : List Str) (hne : fields ≠ [])
    (h : ∀ f ∈ fields, FieldOK f) : parseLine (renderRow pad fields) = fields := by
  obtain ⟨ls, rs, hl, hr, hbl, hbr, e⟩ := renderRow_decorated pad fields
  rw [e]
  exact parseLine_decorated ls rs fields hl hr hne (fun l h => (hbl l h).1) (fun r h => (hbr r h).1) h

/-- layout freedom between lines: whichever terminators (LF, CRLF, CR) end the lines, the content is the kept lines;
  so blank lines and comment lines may be inserted anywhere -/
theorem parseFile_glue (lines eols : List Str) (hl : ∀ l ∈ lines, LineOK l) (he : ∀ e ∈ eols, IsEol e) :
    parseFile (glue lines eols) = ((lines.filter keepLine).map parseLine) := by
  unfold parseFile
  rw [filter_splitLines_glue lines eols hl he]

/-- a written file parses back to exactly its rows: the two header lines are comments, nothing else is dropped -/
theorem parseFile_renderFile (formatLine header : Str) (pad : Option (List Nat)) (rows : List (List Str))
    (hf : formatLine.head? = some '#' ∧ '\n' ∉ formatLine ∧ '\r' ∉ formatLine)
    (hh : header.head? = some '#' ∧ '\n' ∉ header ∧ '\r' ∉ header)
    (hr : ∀ r ∈ rows, RowOK r) :
    parseFile (renderFile formatLine header pad rows) = rows := by
  have hrow (r) (h : r ∈ rows) := renderRow_line pad r (hr r h)
  have hlines : ∀ l ∈ formatLine :: header :: rows.map (renderRow pad), LineOK l :=
    List.forall_mem_cons.2 ⟨hf.2, List.forall_mem_cons.2 ⟨hh.2, List.forall_mem_map.2 fun r h => (hrow r h).1⟩⟩
  have heols : ∀ e ∈ List.replicate (rows.length + 2) nl, IsEol e := fun e he => Or.inl (List.eq_of_mem_replicate he)
  have hkeep : ∀ l ∈ rows.map (renderRow pad), keepLine l = true := List.forall_mem_map.2 fun r h => (hrow r h).2
  rw [renderFile_eq_glue, parseFile_glue _ _ hlines heols, filter_keepLine_of_false (keepLine_of_hash _ hf.1),
    filter_keepLine_of_false (keepLine_of_hash _ hh.1), List.filter_eq_self.2 hkeep, List.map_map]
  exact (List.map_congr_left fun r h => parseLine_renderRow pad r (hr r h).ne_nil (hr r h).1).trans (List.map_id _)

/-- hence saving what was loaded from a saved file reproduces the file byte for byte -/
theorem resave_identical (formatLine header : Str) (pad : Option (List Nat)) (rows : List (List Str))
    (hf : formatLine.head? = some '#' ∧ '\n' ∉ formatLine ∧ '\r' ∉ formatLine)
    (hh : header.head? = some '#' ∧ '\n' ∉ header ∧ '\r' ∉ header)
    (hr : ∀ r ∈ rows, RowOK r) :
    renderFile formatLine header pad (parseFile (renderFile formatLine header pad rows)) =
      renderFile formatLine header pad rows := by
  rw [parseFile_renderFile formatLine header pad rows hf hh hr]

/-- integers: `int(str(i)) = i`, also for negative and 19-digit values, and leading zeros are accepted -/
theorem readInt_showInt (i : Int) : readInt (showInt i) = some i := by
  unfold showInt
  split
  · rw [readInt_neg, readNat_natDigits]
    exact congrArg some (show -(i.natAbs : Int) = i by omega)
  · rw [readInt_natDigits]
    exact congrArg some (by omega)

/-- showInt produces a field that survives the text layer -/
theorem showInt_fieldOK (i : Int) : FieldOK (showInt i) ∧ showInt i ≠ [] ∧ (showInt i).head? ≠ some '#' := by
  have hc := showInt_chars i
  refine ⟨⟨?_, ?_, ?_, ?_⟩, showInt_ne_nil i, ?_⟩
  · exact fun hm => (hc _ hm).facts.ne_comma rfl
  · exact fun hm => (hc _ hm).facts.ne_lf rfl
  · exact fun hm => (hc _ hm).facts.ne_cr rfl
  · exact strip_none _ (fun c h => (hc c h).facts.not_space)
  · exact fun hh => (hc _ (List.mem_of_mem_head? hh)).facts.ne_hash rfl

-- non-vacuity
example : parseFile ("# kapture format: 1.1\n# timestamp, device_id, image_path\n       5, cam 0, a/b c.jpg\r\n\n#x\n-7,c,d".toList)
    = [["5".toList, "cam 0".toList, "a/b c.jpg".toList], ["-7".toList, "c".toList, "d".toList]] := by
  -- the kernel evaluates `toList` of a string literal by encoding it to UTF-8 and decoding it again, which is slow;
  -- `String.toList_ofList` replaces each literal by its characters without evaluating anything
  repeat rw [String.toList_ofList]
  decide +kernel
example : showInt (-9223372036854775807) = "-9223372036854775807".toList := by
  rw [String.toList_ofList]
  decide +kernel

end Kapture.Csv
