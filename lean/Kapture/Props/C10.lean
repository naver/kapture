/-
  Props/C10.lean — property theorems for C10 (merging with renamed identifiers is a disjoint union, consistently renamed).
  Property theorems ONLY.  For ANY number of inputs, any part missing in any input at any position.
-/
import Kapture.Lemmas.C10
import Kapture.Lemmas.C09

namespace Kapture.C10

/-- every sensor and rig of every input gets a fresh identifier distinct from all others -/
theorem new_ids_all_distinct (inputs : List InputIds) (h : ∀ i ∈ inputs, idsNodup i) : (allNewIds inputs).Nodup := by
  have _ := h  -- not needed: fresh identifiers are distinct whatever the input ids are
  rw [allNewIds_eq]
  refine (newIdsFrom_perm inputs 0 0).nodup_iff.mpr (List.nodup_append.mpr ⟨?_, ?_, ?_⟩)
  · exact List.pairwise_map.mpr (List.Pairwise.imp (fun h e => h (NewId.sensor.inj e)) List.nodup_range')
  · exact List.pairwise_map.mpr (List.Pairwise.imp (fun h e => h (NewId.rig.inj e)) List.nodup_range')
  · intro a ha b hb
    obtain ⟨_, _, rfl⟩ := List.mem_map.mp ha
    obtain ⟨_, _, rfl⟩ := List.mem_map.mp hb
    exact NewId.noConfusion

/-- one mapping pair per input, and the mapping of an input renames exactly the identifiers of THAT input
  (an input without sensors gets an empty mapping and does not shift the others) -/
theorem mappings_follow_inputs (inputs : List InputIds) :
    (sensorMaps inputs).length = inputs.length ∧ (rigMaps inputs).length = inputs.length ∧
    ∀ (n : Nat) (i : InputIds) (sm rm : Mapping), inputs[n]? = some i → (sensorMaps inputs)[n]? = some sm →
      (rigMaps inputs)[n]? = some rm → sm.map (·.1) = i.sensors.getD [] ∧ rm.map (·.1) = i.rigs.getD [] := by
  have hkeys := computeNewIds_keys inputs 0 0
  have hlen : (computeNewIds inputs 0 0).length = inputs.length := by
    simpa only [List.length_map] using congrArg List.length hkeys
  refine ⟨by rw [sensorMaps, List.length_map, hlen], by rw [rigMaps, List.length_map, hlen], ?_⟩
  intro n i sm rm hi hs hr
  have hn := congrArg (·[n]?) hkeys
  simp only [sensorMaps, rigMaps, List.getElem?_map, Option.map_eq_some_iff] at hs hr
  obtain ⟨p, hp, rfl⟩ := hs
  obtain ⟨q, hq, rfl⟩ := hr
  rw [hp] at hq
  cases hq
  simpa only [List.getElem?_map, hp, hi, Option.map_some, Option.some.injEq, Prod.mk.injEq] using hn

/-- the renamed merge IS the concatenation of the inputs' entries, each renamed through its own input's mapping,
  whenever the renamed keys do not collide (which fresh identifiers guarantee: `renamed_keys_distinct`):
  nothing lost, nothing duplicated, nothing attributed to another input -/
theorem merge_is_renamed_concat (pos : Nat) (fw : Bool) (tables : List (Option Table)) (mappings : List Mapping)
    (out : OutTable) (h : renamedConcat pos tables mappings = Except.ok out) (hnd : (out.map (·.1)).Nodup) :
    mergeRenamed pos fw tables mappings = Except.ok out := by
  rw [mergeRenamed_eq_build, h]
  exact congrArg Except.ok (foldl_put_of_nodup fw out [] hnd)

/-- counts add up -/
theorem counts_add_up (pos : Nat) (fw : Bool) (tables : List (Option Table)) (mappings : List Mapping)
    (out : OutTable) (hl : tables.length = mappings.length)
    (h : renamedConcat pos tables mappings = Except.ok out) (hnd : (out.map (·.1)).Nodup) :
    ∃ merged, mergeRenamed pos fw tables mappings = Except.ok merged ∧
      merged.length = (tables.map (fun t => (t.getD []).length)).sum := by
  refine ⟨out, merge_is_renamed_concat pos fw tables mappings out h hnd, ?_⟩
  have hlen := congrArg List.length (renamedEntries_of_ok h)
  rw [List.length_map, renamedEntries, List.length_flatMap] at hlen
  rw [← hlen]
  conv => rhs; rw [← List.map_fst_zip (Nat.le_of_eq hl), List.map_map]
  simp only [List.length_map, Function.comp_def]

/-- renaming position 1 (timestamp, sensor[, key3]) through pairwise value-disjoint injective mappings never makes two
  entries collide, provided each input table has distinct keys -/
theorem renamed_keys_distinct (pos : Nat) (tables : List (Option Table)) (mappings : List Mapping) (out : OutTable)
    (h : renamedConcat pos tables mappings = Except.ok out)
    (hk : ∀ t, some t ∈ tables → (t.map (·.1)).Nodup)
    (hm : (mappings.flatMap (fun m => m.map (·.2))).Nodup)
    (hmk : ∀ m ∈ mappings, (m.map (·.1)).Nodup) :
    (out.map (·.1)).Nodup := by
  have _ := hmk  -- not needed: distinct mapping values already make the renaming injective
  have hp := renamedEntries_pairwise pos tables mappings hk hm
  rw [renamedEntries_of_ok h, List.pairwise_map] at hp
  exact List.pairwise_map.mpr (hp.imp fun hab => hab _ _ rfl rfl)

/-- lookup law: an entry of input n is found in the merge under the new identifier of that same input -/
theorem lookup_renamed (pos : Nat) (fw : Bool) (tables : List (Option Table)) (mappings : List Mapping) (out : OutTable)
    (h : renamedConcat pos tables mappings = Except.ok out) (hnd : (out.map (·.1)).Nodup)
    (n : Nat) (t : Table) (m : Mapping) (k : Key) (v : String) (k' : OutKey)
    (ht : tables[n]? = some (some t)) (hm : mappings[n]? = some m) (hkv : (k, v) ∈ t)
    (hr : renameAt pos m k = Except.ok k') :
    ∃ merged, mergeRenamed pos fw tables mappings = Except.ok merged ∧ Dict.get? k' merged = some v := by
  refine ⟨out, merge_is_renamed_concat pos fw tables mappings out h hnd, ?_⟩
  have hmem : Except.ok (k', v) ∈ renamedEntries pos (tables.zip mappings) :=
    List.mem_flatMap.mpr ⟨(some t, m), List.mem_of_getElem? (List.getElem?_zip_eq_some.mpr ⟨ht, hm⟩),
      List.mem_map.mpr ⟨(k, v), hkv, by rw [renameKV, hr]; rfl⟩⟩
  rw [renamedEntries_of_ok h] at hmem
  obtain ⟨x, hx, hxe⟩ := List.mem_map.mp hmem
  cases hxe
  exact Dict.get?_of_mem hnd hx

-- non-vacuity: identical identifiers in two inputs, the first input lacking the table
example : mergeRenamed 1 false [none, some [(["5", "cam"], "img")]]
      [[("cam", NewId.sensor 0)], [("cam", NewId.sensor 1)]]
    = Except.ok [([Comp.str "5", Comp.new (NewId.sensor 1)], "img")] := by rfl
example : computeNewIds [⟨some ["cam", "gps"], none⟩, ⟨none, some ["r"]⟩, ⟨some ["cam"], some ["r"]⟩] 0 0
    = [([("cam", NewId.sensor 0), ("gps", NewId.sensor 1)], []), ([], [("r", NewId.rig 0)]),
       ([("cam", NewId.sensor 2)], [("r", NewId.rig 1)])] := by decide +kernel

/-- which parts merge_remap produces follows the skip list (guards regenerated from merge_remap's if-structure): sensors and rigs
  always; every other table part exactly when its own type is not skipped (the type the tool's command line names); observations
  exactly when neither Points3d nor Observations is skipped, 3-D points exactly when Points3d is not -/
theorem remap_parts_follow_the_skip_list (skip : List String) :
    (Dict.get? "sensors" Gen.MergeDispatch.remapGuards = some [[]] ∧ Dict.get? "rigs" Gen.MergeDispatch.remapGuards = some [[]]) ∧
    (∀ attr ∈ C09.simpleAttrs.drop 2, Dict.get? attr Gen.MergeDispatch.remapGuards =
        some [[("not-skipped", [(Dict.get? attr Gen.MergeDispatch.skipNames).getD ""])]] ∧
      (Dict.get? attr Gen.MergeDispatch.skipNames).isSome = true) ∧
    C09.guardHolds skip ((Dict.get? "observations" Gen.MergeDispatch.remapGuards).getD []) =
      (!skip.contains "Points3d" && !skip.contains "Observations") ∧
    C09.guardHolds skip ((Dict.get? "points3d" Gen.MergeDispatch.remapGuards).getD []) = !skip.contains "Points3d" := by
  have hrec : (Dict.get? "observations" Gen.MergeDispatch.remapGuards).getD [] =
        [[("not-skipped", ["Points3d", "Observations"])]] ∧
      (Dict.get? "points3d" Gen.MergeDispatch.remapGuards).getD [] = [[("not-skipped", ["Points3d", "Observations"])],
        [("else-of", ["Points3d", "Observations"]), ("not-skipped", ["Points3d"])]] := by decide +kernel
  rw [hrec.1, hrec.2]
  refine ⟨?_, ?_, C09.guardHolds_both skip _ _, C09.guardHolds_first skip _ _⟩ <;> decide +kernel

end Kapture.C10
