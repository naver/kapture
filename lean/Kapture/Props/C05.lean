/-
  Props/C05.lean — property theorems for C05 (poses form a rigid-transform group).
  Property theorems ONLY, and the `private` list inductions over them; helper lemmas live in Lemmas/C05.lean.
  All statements are over an arbitrary field `K` and hold for every quaternion with non-zero squared norm
  (in an ordered field: every non-zero quaternion, `hypotheses_met_by_nonzero`), every translation, every point,
  and pose lists of any length.  `rot` is built from the two branches GENERATED from `_as_rotation_matrix_njit`.
-/
import Kapture.Lemmas.C05

set_option linter.unusedSectionVars false

namespace Kapture.C05
open Kapture.Gen.RotMat
variable {K : Type} [Field K] [DecidableEq K]

/-- the two generated branches coincide on unit quaternions -/
theorem branches_agree (q : Quat K) (h : qnorm q = 1) : rotUnit q = rotNorm q (qnorm q) := by
  rw [h, rotUnit_eq]

/-- the rotation matrix is multiplicative: R(pq) = R(p) R(q) -/
theorem rot_mul (p q : Quat K) (hp : qnorm p ≠ 0) (hq : qnorm q ≠ 0) :
    rot (Quat.mul p q) = M3.mul (rot p) (rot q) := by
  -- both sides act on a vector as conjugation by `p * q`
  refine ext_mulVec fun v => pureQuat_inj ?_
  rw [mulVec_mul, rot_sandwich _ _ (qnorm_mul_ne hp hq), rot_sandwich _ _ hp, rot_sandwich _ _ hq, quat_inv_mul_rev]
  simp only [quat_mul_assoc]

/-- non-unit clause: the rotation is that of the normalised quaternion — any non-zero scaling is irrelevant -/
theorem rot_scale_invariant (c : K) (q : Quat K) (hc : c ≠ 0) (h : qnorm q ≠ 0) :
    rot (Quat.smul c q) = rot q := by
  have _ := h  -- not needed: `c * c` cancels from each `a / n` of `rot_smul` whether or not the norm `n` is 0
  exact rot_smul c q hc

/-- the matrix of the inverse quaternion is the transpose -/
theorem rot_inv (q : Quat K) (h : qnorm q ≠ 0) : rot (Quat.inv q) = M3.transpose (rot q) := by
  rw [inv_eq_smul_conj, rot_smul (qnorm q)⁻¹ (conj q) (inv_ne_zero h), rot_conj]

/-- R(q) is orthogonal: R Rᵀ = I -/
theorem rot_orthogonal (q : Quat K) (h : qnorm q ≠ 0) :
    M3.mul (rot q) (M3.transpose (rot q)) = M3.one := by
  rw [← rot_inv _ h, ← rot_mul _ _ h (qnorm_inv_ne _ h), quat_mul_inv _ h, rot_one]

/-- transforming by a composition equals transforming successively, right-most first -/
theorem transform_compose2 (a b : Pose K) (x : V3 K) (ha : qnorm a.r ≠ 0) (hb : qnorm b.r ≠ 0) :
    transform (compose2 a b) x = transform a (transform b x) := by
  simp only [transform, compose2]
  rw [rot_mul _ _ ha hb, mulVec_mul, mulVec_add, add_assoc3]

/-- composing is associative (exactly, both parts) -/
theorem compose2_assoc (a b c : Pose K) (ha : qnorm a.r ≠ 0) (hb : qnorm b.r ≠ 0) :
    compose2 (compose2 a b) c = compose2 a (compose2 b c) := by
  simp only [compose2, quat_mul_assoc, Pose.mk.injEq, true_and]
  -- the translation of `compose2 a b` is `transform a b.t`
  exact transform_compose2 a b c.t ha hb

theorem compose2_qnorm (a b : Pose K) : qnorm (compose2 a b).r = qnorm a.r * qnorm b.r := by
  simp only [compose2, qnorm_mul]

private theorem foldl_qnorm_ne (ps : List (Pose K)) (p : Pose K) (hp : qnorm p.r ≠ 0)
    (h : ∀ x ∈ ps, qnorm x.r ≠ 0) : qnorm (ps.foldl compose2 p).r ≠ 0 := by
  induction ps generalizing p with
  | nil => exact hp
  | cons x xs ih =>
    rw [List.forall_mem_cons] at h
    exact ih _ (qnorm_mul_ne hp h.1) h.2

private theorem foldl_compose2_assoc (ps : List (Pose K)) (a b : Pose K) (ha : qnorm a.r ≠ 0) (hb : qnorm b.r ≠ 0)
    (h : ∀ x ∈ ps, qnorm x.r ≠ 0) :
    ps.foldl compose2 (compose2 a b) = compose2 a (ps.foldl compose2 b) := by
  induction ps generalizing b with
  | nil => rfl
  | cons x xs ih =>
    rw [List.forall_mem_cons] at h
    rw [List.foldl_cons, compose2_assoc a b x ha hb, List.foldl_cons, ih (compose2 b x) (qnorm_mul_ne hb h.1) h.2]

/-- associativity for chains of ANY length: composing a concatenation equals composing the two halves and
  then composing the results — hence every bracketing of a chain gives the same pose. -/
theorem compose_append (xs ys : List (Pose K)) (x y cx cy : Pose K)
    (hx : ∀ p ∈ x :: xs, qnorm p.r ≠ 0) (hy : ∀ p ∈ y :: ys, qnorm p.r ≠ 0)
    (ex : compose (x :: xs) = some cx) (ey : compose (y :: ys) = some cy) :
    compose ((x :: xs) ++ (y :: ys)) = some (compose2 cx cy) := by
  cases ex
  cases ey
  rw [List.forall_mem_cons] at hx hy
  simp only [compose, List.cons_append, List.foldl_append, List.foldl_cons]
  rw [foldl_compose2_assoc ys _ y (foldl_qnorm_ne xs x hx.1 hx.2) hy.1 hy.2]

/-- composing a pose with its inverse is exactly the identity pose (both orders) -/
theorem compose_inverse_right (p : Pose K) (h : qnorm p.r ≠ 0) : compose2 p (inverse p) = identity := by
  simp only [compose2, inverse, identity, Pose.mk.injEq]
  refine ⟨quat_mul_inv _ h, ?_⟩
  rw [← mulVec_mul, rot_inv _ h, rot_orthogonal _ h, mulVec_one]
  simp only [V3.add, V3.mulNegOne, V3.zero, mul_neg_one, neg_add_cancel]

/-- inverting twice returns the pose, exactly -/
theorem inverse_inverse (p : Pose K) (h : qnorm p.r ≠ 0) : inverse (inverse p) = p := by
  cases p with
  | mk r t =>
    simp only [inverse]
    rw [quat_inv_inv _ h, mulNegOne_mulVec, ← mulVec_mul, rot_inv _ h, rot_orthogonal _ h, mulVec_one]

theorem compose_inverse_left (p : Pose K) (h : qnorm p.r ≠ 0) : compose2 (inverse p) p = identity := by
  have := compose_inverse_right (inverse p) (qnorm_inv_ne _ h)
  rwa [inverse_inverse p h] at this

private theorem transform_foldl (ps : List (Pose K)) (a : Pose K) (x : V3 K) (ha : qnorm a.r ≠ 0)
    (h : ∀ p ∈ ps, qnorm p.r ≠ 0) :
    transform (ps.foldl compose2 a) x = transform a (ps.foldr transform x) := by
  induction ps generalizing a with
  | nil => rfl
  | cons p ps ih =>
    rw [List.forall_mem_cons] at h
    rw [List.foldl_cons, ih (compose2 a p) (qnorm_mul_ne ha h.1) h.2, transform_compose2 a p _ ha h.1, List.foldr_cons]

/-- chain law for chains of ANY length, by induction on the list -/
theorem transform_compose_chain (ps : List (Pose K)) (c : Pose K) (x : V3 K)
    (h : ∀ p ∈ ps, qnorm p.r ≠ 0) (e : compose ps = some c) :
    transform c x = ps.foldr transform x := by
  cases ps with
  | nil => cases e
  | cons p ps =>
    cases e
    rw [List.forall_mem_cons] at h
    exact transform_foldl ps p x h.1 h.2

/-- point transforms preserve (squared) distances -/
theorem transform_isometry (p : Pose K) (x y : V3 K) (h : qnorm p.r ≠ 0) :
    V3.norm2 (V3.sub (transform p x) (transform p y)) = V3.norm2 (V3.sub x y) := by
  -- the translation cancels; the rotation is a conjugation, and the norm of quaternions is multiplicative
  rw [transform, transform, sub_add_mulVec, ← qnorm_pureQuat, rot_sandwich _ _ h, qnorm_mul, qnorm_mul, qnorm_inv _ h,
    qnorm_pureQuat, mul_right_comm, mul_inv_cancel₀ h, one_mul]

/-- the inverse pose undoes the point transform -/
theorem transform_inverse (p : Pose K) (x : V3 K) (h : qnorm p.r ≠ 0) :
    transform (inverse p) (transform p x) = x := by
  rw [← transform_compose2 (inverse p) p x (qnorm_inv_ne _ h) h, compose_inverse_left p h, transform_identity]

/-- colour columns never influence transformed coordinates; one output row per input row -/
theorem transformPoints_ignores_rgb (p : Pose K) (rows : List (Row K)) :
    transformPoints p rows = transformPoints p (rows.map (fun r => { r with rgb := none }))
    ∧ (transformPoints p rows).length = rows.length := by
  simp [transformPoints, List.map_map, Function.comp_def]

/-- every real non-zero quaternion satisfies the hypothesis of the theorems above -/
theorem hypotheses_met_by_nonzero {F : Type} [Field F] [LinearOrder F] [IsStrictOrderedRing F]
    (q : Quat F) (h : q ≠ ⟨0, 0, 0, 0⟩) : qnorm q ≠ 0 := by
  cases q with
  | mk w x y z =>
    intro e
    -- a sum of squares vanishes only if each of them does
    have h2 := add_nonneg (mul_self_nonneg w) (mul_self_nonneg x)
    have h3 := add_nonneg h2 (mul_self_nonneg y)
    simp only [qnorm, add_eq_zero_iff_of_nonneg, h2, h3, mul_self_nonneg, mul_self_eq_zero] at e
    exact h (by simp only [e])

-- non-vacuity: a concrete non-unit quaternion over ℚ meets the hypotheses, and the chain law's premise
-- `compose ps = some c` is met by a 3-element chain
example : qnorm (⟨1, 2, 3, 4⟩ : Quat ℚ) ≠ 0 := by simp only [qnorm]; norm_num
example : ∃ c, compose [(⟨⟨1, 2, 3, 4⟩, ⟨1, 0, 0⟩⟩ : Pose ℚ), ⟨⟨0, 1, 0, 0⟩, ⟨0, 5, 0⟩⟩, ⟨⟨1, 1, 0, 0⟩, ⟨0, 0, 7⟩⟩] = some c :=
  ⟨_, rfl⟩

/-- rescaling (the in-place mutator) commutes with inversion: the inverse of a rescaled pose is the rescaled inverse -/
theorem inverse_rescale (s : K) (p : Pose K) : inverse (rescale s p) = rescale s (inverse p) := by
  -- both translations are sums of products: `s` is distributed over them and moved to the front of each
  simp only [inverse, rescale, M3.mulVec, V3.mulNegOne, mul_add, mul_left_comm s, mul_assoc]

/-- HISTORIES of pose objects: rescaling one object changes that object only — every other object of the pool, results of earlier
  `inverse` / `compose` calls included, stays what it was; so `p.inverse()` asked again later is the inverse of what `p` is then -/
theorem rescale_touches_one_object (pool : List (Pose K)) (i j : Nat) (s : K) (h : j ≠ i) :
    (histStep pool (HistOp.rescale i s))[j]? = pool[j]? := by
  simp only [histStep]
  cases pool[i]? with
  | none => rfl
  | some p => simp [h.symm]

end Kapture.C05
