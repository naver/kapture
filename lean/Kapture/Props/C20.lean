/-
  Props/C20.lean — property theorems for C20 (upgrading a 1.0 dataset to 1.1 preserves all of its content).
  Property theorems ONLY.  For ANY tree, any number of data files, any nesting of image folders.
-/
import Kapture.Lemmas.C20

namespace Kapture.C20

/-- the in-place route files every data file under its type with ITS OWN content — the moves are done deepest first, so
  a file moved into `<type>/` never lands on a file that is still to be moved (the D20 defect) -/
theorem moves_preserve_content (t : Tree) (moves : List Move) (hk : (Dict.keys t).Nodup)
    (hw : WellFormedMoves moves) (hd : DeepestFirst moves) (hs : ∀ m ∈ moves, (Dict.get? m.src t).isSome)
    (m : Move) (hm : m ∈ moves) :
    Dict.get? m.dst (moves.foldl moveFile t) = Dict.get? m.src t := by
  have _ := hk  -- not needed: the `Dict.get?` laws of `set` and `erase` behind `get?_moveFile_*` hold of any association list
  obtain ⟨hdepth, hsrc, hdst⟩ := hw
  refine foldl_writes (rd := fun s m => Dict.get? m.src s) moves (fun m s h => ?_) ?_ t hs m hm
  · obtain ⟨c, hc⟩ := Option.isSome_iff_exists.mp h
    rw [hc]
    exact get?_moveFile_dst s m c hc
  · -- pair by pair: `a`, done before `b`, is at least as deep and has another source and another destination
    refine ((hd.and (List.pairwise_map.mp hsrc)).and (List.pairwise_map.mp hdst)).imp_of_mem
      fun {a b} ha _ ⟨⟨hab, hss⟩, hdd⟩ s => ?_
    -- the depth argument: the destination of `a` is deeper than its source, so it is not the source of `b`
    have hne : a.dst ≠ b.src := fun he => by have := hdepth a ha; rw [he] at this; omega
    exact ⟨get?_moveFile_other s a b.src (Ne.symm hss) (Ne.symm hne), get?_moveFile_other s b a.dst hne hdd⟩

/-- ... and the two routes agree on every destination: in place (move) = copy -/
theorem routes_agree_on_data_files (t : Tree) (moves : List Move) (hk : (Dict.keys t).Nodup)
    (hw : WellFormedMoves moves) (hd : DeepestFirst moves) (hs : ∀ m ∈ moves, (Dict.get? m.src t).isSome)
    (m : Move) (hm : m ∈ moves) :
    Dict.get? m.dst (moves.foldl moveFile t) = Dict.get? m.dst (copiedFolder t moves) := by
  rw [moves_preserve_content t moves hk hw hd hs m hm, copiedFolder_content t moves hw.2.2 hs m hm]

/-- files that are neither a source nor a destination are untouched by the in-place route -/
theorem moves_leave_others (t : Tree) (moves : List Move) (hk : (Dict.keys t).Nodup) (p : String)
    (hp : ∀ m ∈ moves, p ≠ m.src ∧ p ≠ m.dst) :
    Dict.get? p (moves.foldl moveFile t) = Dict.get? p t := by
  have _ := hk  -- not needed, as in `moves_preserve_content`
  exact foldl_untouched moves t fun m hm s => get?_moveFile_other s m p (hp m hm).1 (hp m hm).2

/-- the order the model (and the fixed code) uses is deepest first -/
theorem deepestFirst_sorted (rels : List String) :
    (deepestFirst rels).Pairwise (fun a b => count '/' a ≥ count '/' b) ∧ (deepestFirst rels).Perm rels := by
  induction rels with
  | nil => exact ⟨List.Pairwise.nil, List.Perm.refl _⟩
  | cons r rs ih =>
    exact ⟨insertByDepth_sorted r _ ih.1, (insertByDepth_perm r _).trans (List.Perm.cons r ih.2)⟩

/-- the unchanged tables keep every line after the version line, and start with the 1.1 version line -/
theorem table_content_unchanged (lines : List String) :
    (upgradeTable lines).head? = some Gen.Headers.formatLine ∧
    (upgradeTable lines).tail = (match lines with
      | l :: rest => if isVersionLine l then rest else l :: rest
      | [] => []) := by
  cases lines with
  | nil => exact ⟨rfl, rfl⟩
  | cons l rest =>
    simp only [upgradeTable]
    split <;> exact ⟨rfl, rfl⟩

/-- ... hence a reader sees the same rows: for ANY line filter that drops version lines (as every comment filter does: a version
  line starts with '#'), the upgraded table keeps exactly the lines of the original table, in the same order -/
theorem upgraded_table_same_rows (keep : String → Bool) (hv : ∀ l, isVersionLine l = true → keep l = false)
    (hf : keep Gen.Headers.formatLine = false) (lines : List String) :
    (upgradeTable lines).filter keep = lines.filter keep := by
  cases lines with
  | nil => simp [upgradeTable, hf]
  | cons l rest =>
    simp only [upgradeTable]
    split
    · rename_i h; simp [hf, hv l h]
    · simp [hf]

/-- OBSERVATIONS: after regrouping, a point index holds exactly the (image, feature) tokens of ITS rows of the 1.0 file, in file
  order — nothing lost, nothing attributed to another point; an index without rows has no group -/
theorem observations_regrouped (entries : List (Int × List String)) (i : Int) :
    Dict.get? i (groupEntries entries) =
      if entries.any (fun e => e.1 == i) then some (pairsOf i entries) else none :=
  group_fold_get entries [] i

/-- ... the groups are written sorted by index, each of them once (a permutation of the groups) -/
theorem observation_rows_perm (l : List (Int × List String)) : (sortGroups l).Perm l := by
  induction l with
  | nil => exact .refl _
  | cons x xs ih => exact (insertGroup_perm x _).trans (ih.cons x)

/-- ... one row per group: point index, THE KEYPOINTS TYPE, then the tokens; after the 1.1 version line and the columns comment -/
theorem observations_relabelled (ty : String) (lines : List String) :
    relabelObservations ty lines =
      [Gen.Headers.formatLine, "# point3d_id, keypoints_type, [image_path, feature_id]*"] ++
        (sortGroups (groupEntries (observationEntries lines))).map
          (fun g => ", ".intercalate (String.ofList (Csv.showInt g.1) :: ty :: g.2)) := rfl

/-- both routes rewrite the tables, the descriptor files and the observations identically: they apply the same plan -/
theorem routes_share_plan (p : Params) (t : Tree) (pl : Plan) (h : plan p t = Except.ok pl) :
    (∃ t₁, upgradeInplace p t = Except.ok t₁) ∧ (∃ t₂, upgradeCopy p t = Except.ok t₂) := by
  constructor
  · unfold upgradeInplace
    rw [h]
    exact ⟨_, rfl⟩
  · unfold upgradeCopy
    rw [h]
    exact ⟨_, rfl⟩

/-- the defect D20, as a theorem about the model: moving SHALLOWEST first loses a file -/
theorem shallow_first_clobbers :
    let t : Tree := [("k/a.kpt", Content.blob 1), ("k/sift/a.kpt", Content.blob 2)]
    let bad : List Move := [⟨"k/a.kpt", "k/sift/a.kpt"⟩, ⟨"k/sift/a.kpt", "k/sift/sift/a.kpt"⟩]
    Dict.get? "k/sift/sift/a.kpt" (bad.foldl moveFile t) = some (Content.blob 1) ∧
    Dict.get? "k/sift/a.kpt" (bad.foldl moveFile t) = none ∧
    Dict.get? "k/sift/sift/a.kpt" (bad.reverse.foldl moveFile t) = some (Content.blob 2) ∧
    Dict.get? "k/sift/a.kpt" (bad.reverse.foldl moveFile t) = some (Content.blob 1) := by
  decide +kernel

end Kapture.C20
