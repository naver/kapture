/-
  Props/C19.lean — property theorems for C19 (clearing a dataset directory removes only dataset files, with consent).
  Property theorems ONLY.  For ALL only/skip selections, ALL answers, ALL directory states (`kind`).
-/
import Kapture.Lemmas.C19

namespace Kapture.C19

/-- the generated tables satisfy the side conditions (a renamed file, a type listed twice, ... breaks this) -/
theorem tables_wellformed : WF genTables := ⟨by decide +kernel, by decide +kernel, by decide +kernel⟩

/-- nothing is deleted unless forced or answered y/Y -/
theorem no_consent_no_change (T : Tables) (a : Args) (kind : String → Kind) (h : consent a = false) :
    ∀ plan, outcome T a kind ≠ Outcome.deleted plan := by
  intro plan
  unfold outcome
  simp only [h]
  split
  · exact fun hh => Outcome.noConfusion hh
  · simp

/-- with consent, what is deleted is the whole plan, and it is non-empty exactly when something selected exists -/
theorem consent_deletes_plan (T : Tables) (a : Args) (kind : String → Kind) (h : consent a = true) :
    outcome T a kind =
      if (toDelete T a kind).isEmpty then Outcome.nothing
      else Outcome.deleted ((toDelete T a kind).map (fun p => (p, (kind p).action))) := by
  unfold outcome
  simp only [h, if_true]

/-- the plan is EXACTLY the existing paths selected by only/skip (with the record data kept when a kept part needs it) -/
theorem deleted_exact (T : Tables) (hT : WF T) (a : Args) (kind : String → Kind) (p : String) :
    p ∈ toDelete T a kind ↔ ((kind p).lexists = true ∧ Selected T a p) := by
  rw [mem_toDelete, mem_candidates hT, mustKeep_eq_needs hT]
  unfold Selected
  by_cases hp : p = T.recordsDir
  · -- the record-data folder is no text file: it goes exactly when no kept part needs it
    subst hp
    have hcsv : ¬ ∃ t, (t, T.recordsDir) ∈ T.csvFiles ∧ sel a t = true := fun ⟨t, h, _⟩ => hT.rec_not_csv _ h rfl
    simp [hcsv]
  · simp [hp, and_comm]

theorem deleted_exact_gen (a : Args) (kind : String → Kind) (p : String) :
    p ∈ toDelete genTables a kind ↔ ((kind p).lexists = true ∧ Selected genTables a p) :=
  deleted_exact genTables tables_wellformed a kind p

/-- no path is visited twice -/
theorem plan_nodup (T : Tables) (a : Args) (kind : String → Kind) : (toDelete T a kind).Nodup := by
  unfold toDelete
  dsimp only
  split
  · exact (nodup_existing T a kind).erase _
  · exact nodup_existing T a kind

/-- files the user keeps alongside are never in the plan: only the format's own top-level paths are -/
theorem foreign_untouched (T : Tables) (a : Args) (kind : String → Kind) (p : String) (h : p ∈ toDelete T a kind) :
    p ∈ datasetPaths T :=
  -- each of the three lists of candidates is a sublist of the corresponding list of dataset paths
  (((List.filter_sublist.map _).append (List.filter_sublist.map _)).append (.refl _)).subset (mem_toDelete.mp h).1

/-- parts named in skip survive -/
theorem skip_survives (T : Tables) (hT : WF T) (a : Args) (kind : String → Kind) (t p : String)
    (ho : a.only = []) (hs : t ∈ a.skip) (hp : (t, p) ∈ T.csvFiles ∨ ((t, p) ∈ T.featDirs ∧ p ≠ T.recordsDir))
    (huniq : ∀ t' , ((t', p) ∈ T.csvFiles ∨ (t', p) ∈ T.featDirs) → t' = t) :
    p ∉ toDelete T a kind := by
  rw [deleted_exact T hT]
  have hsel : sel a t = false := by simp [sel, ho, hs]
  rintro ⟨_, h | h | h⟩
  · obtain ⟨t', h1, h2⟩ := h
    rw [huniq t' (Or.inl h1), hsel] at h2; exact Bool.noConfusion h2
  · obtain ⟨t', h1, h2, _⟩ := h
    rw [huniq t' (Or.inr h1), hsel] at h2; exact Bool.noConfusion h2
  · rcases hp with hp | hp
    · exact hT.rec_not_csv (t, p) hp h.1
    · exact hp.2 h.1

/-- the record data survive whenever a kept part needs them -/
theorem records_kept_when_needed (T : Tables) (hT : WF T) (a : Args) (kind : String → Kind) (h : needs T a = true) :
    T.recordsDir ∉ toDelete T a kind := by
  rw [deleted_exact T hT]
  rintro ⟨_, h1 | h1 | h1⟩
  · obtain ⟨t, h1, _⟩ := h1
    exact hT.rec_not_csv (t, T.recordsDir) h1 rfl
  · obtain ⟨_, _, _, hne⟩ := h1
    exact hne rfl
  · rw [h] at h1; exact Bool.noConfusion h1.2

/-- a symbolic link standing for a dataset path is unlinked, never followed -/
theorem link_unlinked (k : Kind) (h : k = Kind.linkFile ∨ k = Kind.linkDir ∨ k = Kind.linkDangling) :
    k.action = Action.unlink := by
  rcases h with rfl | rfl | rfl <;> rfl

-- non-vacuity: a selection that keeps record data while deleting records_camera.txt, on a directory holding both
example : needs genTables ⟨["RecordsCamera"], [], true, ""⟩ = true := by decide +kernel
example : outcome genTables ⟨["RecordsCamera"], [], true, ""⟩
    (fun p => if p = "sensors/records_camera.txt" ∨ p = "sensors/records_data" then Kind.dir else Kind.absent)
    = Outcome.deleted [("sensors/records_camera.txt", Action.rmtree)] := by decide +kernel

end Kapture.C19
