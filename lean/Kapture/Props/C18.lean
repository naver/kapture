/-
  Props/C18.lean — property theorems for C18 (unpacking a dataset archive never writes outside the install directory).
  Property theorems ONLY.

  The model (Model/C18.lean) computes, at every site where the real code creates or replaces a file-system entry, the
  PHYSICAL path the kernel would use — following symbolic links the way the kernel does, making missing parent directories
  the way `os.makedirs` does on the literal path — independently of what the filter vetted with Python's lexical
  `realpath`; an entry that would land anywhere but strictly below the install directory is the verdict `escaped`.
-/
import Kapture.Lemmas.C18
import Kapture.Gen.IoShapes

namespace Kapture.C18

/-- THE PROPERTY, one member: whatever the member's kind, name and link target, whatever the tree already holds (symbolic
  links included, created by arch members or standing there before), no entry is created or replaced anywhere but
  strictly below the install directory.  `Closed` (nothing exists below a path that does not exist) holds of every real
  tree. -/
theorem member_never_escapes (dest : Path) (fs : FS) (hc : Closed fs) (arch : Arch) (m : Member) :
    ∀ q, extractMember dest fs arch m ≠ Verdict.escaped q :=
  extractMember_not_escaped hc arch m

/-- ... and a tree stays a tree, so the statement can be chained over the members of an archive -/
theorem tree_stays_closed (dest : Path) (fs fs' : FS) (hc : Closed fs) (arch : Arch) (m : Member)
    (h : extractMember dest fs arch m = Verdict.ok fs') : Closed fs' :=
  extractMember_closed hc (Or.inl h)

/-- THE PROPERTY, whole archives: extracting ANY archive (any number of members, any mix of files, directories, symbolic and
  hard links, special files, any names and targets) into an install directory holding any tree never creates or replaces
  an entry outside that directory -/
theorem untar_never_escapes_from (dest : Path) (fs : FS) (hc : Closed fs) (ms : List Member) :
    ∀ q, (untar dest fs ms).2 ≠ some (Stop.escaped q) :=
  untarFrom_never_escapes ms fs _ hc

/-- in particular from an empty install directory (what the correspondence harness runs) -/
theorem untar_never_escapes (dest : Path) (ms : List Member) :
    ∀ q, (untar dest [] ms).2 ≠ some (Stop.escaped q) :=
  untar_never_escapes_from dest [] closed_nil ms

/-- THE MODEL NEVER GIVES UP: whatever the archive, the extraction modelled here runs to its end or to the first fatal error of
  the real code — the verdict `unmodelled` (a special file that a link's copy fallback would have to make) is unreachable,
  because a special member stops the extraction before any later link can name it.  With `untar_never_escapes_from` this
  makes the containment statement one about EVERY archive, hard links and their copy fallbacks included. -/
theorem untar_never_unmodelled (dest : Path) (fs : FS) (ms : List Member) : (untar dest fs ms).2 ≠ some Stop.unmodelled :=
  untarFrom_never_unmodelled ms fs _ (by simp) (fun ⟨_, _, hj, _⟩ => Nat.not_lt_zero _ hj)

/-- a member that is skipped (a link whose copy fallback finds nothing to copy: a logged ExtractError) leaves a tree with at
  most new parent directories, all inside -/
theorem skipped_member_keeps_tree (dest : Path) (fs fs' : FS) (hc : Closed fs) (arch : Arch) (m : Member)
    (h : extractMember dest fs arch m = Verdict.skipped fs') : Closed fs' :=
  extractMember_closed hc (Or.inr h)

-- (the copy fallbacks cannot be exhibited by `decide`: names go through String.splitOn, which the kernel does not reduce; the
-- archives of harness/c18.py `FALLBACK_CASES` run them on the model's executable definitions and on the real code on every run)

-- non-vacuity: entries ARE created (a missing parent directory, then the file), through `writeAt`, the only way the
-- model touches the tree
example : placeMember ["inst"] [] ⟨[], 0⟩ { kind := Kind.file, name := "d/x", linkname := "", content := 1 } ["d", "x"]
    = Verdict.ok [(["d"], Node.dir), (["d", "x"], Node.file 1)] := by decide +kernel

/-- the model's assumptions about the code of untar_file are what the translator reads in the source on every run
  (Gen/IoShapes.lean): every member name goes through the `..` guard before extraction, the extraction filter is `data`,
  and attributes are not applied (`set_attrs=False`: modes come from the umask, owner read/write).  And about the tarfile of
  the interpreter: `makelink` falls back to copying after an OSError or an AttributeError (what `chain` models), and the
  extraction functions are, syntax tree for syntax tree, the ones the model was transcribed from (the translator refuses
  any other fingerprint) -/
theorem untar_code_is_the_model :
    Gen.IoShapes.untarDotDotGuard = true ∧ Gen.IoShapes.untarFilter = "data" ∧ Gen.IoShapes.untarSetAttrs = false ∧
    "OSError" ∈ Gen.IoShapes.tarfileLinkFallbackOn ∧ "AttributeError" ∈ Gen.IoShapes.tarfileLinkFallbackOn := by
  decide

/-- why the `..` guard of untar_file is needed (the defect D29, as a theorem about the model): WITHOUT it the `data` filter
  accepts a name that leaves the install directory through a component that does not exist and comes back — the member
  itself resolves inside — and `os.makedirs` then makes that component OUTSIDE -/
theorem without_guard_a_directory_is_made_outside :
    realpath ["p", "inst"] [] FUEL ["p", "inst"] ["..", "new", "..", "inst", "x"] = some ["p", "inst", "x"] ∧
    placeMember ["p", "inst"] [] ⟨[], 0⟩ { kind := Kind.file, name := "", linkname := "", content := 1 } ["..", "new", "..", "inst", "x"]
      = Verdict.escaped ["p", "new"] := by
  constructor <;> decide +kernel

/-- a member name with a `..` component is refused outright, before anything is touched -/
theorem dotdot_refused (dest : Path) (fs : FS) (arch : Arch) (m : Member) (h : ".." ∈ split m.name) :
    extractMember dest fs arch m = Verdict.filterError "OutsideDestinationError" := by
  unfold extractMember
  simp [h]

/-- lexical resolution without links: `..` pops, `.` and empty are skipped, anything else is pushed -/
theorem realpath_linkfree_step (dest : Path) (fs : FS) (h : LinkFree fs) (fuel : Nat) (cur : Path) (c : String) (rest : List String)
    (hc : c ≠ "" ∧ c ≠ "." ∧ c ≠ "..") :
    realpath dest fs (fuel + 1) cur (c :: rest) = realpath dest fs fuel (cur ++ [c]) rest :=
  realpath_step_plain hc (nodeAt_not_link_of_linkfree h)

/-- a member is only ever extracted when its resolved destination is inside the install directory: whatever the
  member's name (any mix of `.`, empty and absolute components) and whatever links the tree holds -/
theorem accepted_member_inside (dest : Path) (fs fs' : FS) (m : Member)
    (arch : Arch) (h : extractMember dest fs arch m = Verdict.ok fs') :
    ∃ target, realpath dest fs FUEL dest (split (stripSlashes m.name)) = some target ∧ Inside dest target := by
  obtain ⟨target, ha⟩ := extractMember_admitted (Or.inl h)
  exact ⟨target, ha.resolves, ha.inside⟩

/-- a symbolic or hard link is only ever created when its target is relative and resolves inside the install directory -/
theorem accepted_link_inside (dest : Path) (fs fs' : FS) (m : Member) (hk : m.kind = Kind.sym ∨ m.kind = Kind.hard)
    (arch : Arch) (h : extractMember dest fs arch m = Verdict.ok fs') :
    m.linkname.startsWith "/" = false ∧
    ∃ t, realpath dest fs FUEL dest
          ((if m.kind = Kind.sym then (split (stripSlashes m.name)).dropLast else []) ++ split m.linkname) = some t ∧
      Inside dest t := by
  obtain ⟨_, ha⟩ := extractMember_admitted (Or.inl h)
  exact ha.link hk

/-- special files (devices, fifos) are never extracted -/
theorem special_rejected (dest : Path) (fs : FS) (arch : Arch) (m : Member) (hk : m.kind = Kind.special) :
    ∀ fs', extractMember dest fs arch m ≠ Verdict.ok fs' := by
  intro fs' h
  obtain ⟨_, ha⟩ := extractMember_admitted (Or.inl h)
  exact ha.notSpecial hk

/-- extraction of a whole archive stops at the first refused member and keeps what was extracted before: the result is the
  fold of the accepted prefix -/
theorem untar_stops_at_first_error (dest : Path) (fs : FS) (arch : Arch) (m : Member) (ms : List Member) (why : String)
    (h : extractMember dest fs arch m = Verdict.filterError why) :
    untarFrom dest fs arch (m :: ms) = (fs, some (Stop.filter why)) := by
  rw [untarFrom, h]

/-- BENIGN MEMBERS ARE EXTRACTED, one member: a regular file with a plain relative name of any depth (no empty, `.` or `..`
  component), in a link-free tree where no regular file stands on the way and the destination is not a directory, is
  extracted — the file is there with its content, the missing parent directories have been made, every other path holds what
  it held -/
theorem benign_member_extracted (dest : Path) (fs : FS) (hl : LinkFree fs) (arch : Arch) (m : Member)
    (hb : BenignFile m)
    (hnf : ∀ x, isPrefix x (pathOf m) = true → x ≠ [] → x ≠ pathOf m → ∀ k, lookup fs x ≠ some (Node.file k))
    (htd : lookup fs (pathOf m) ≠ some Node.dir) :
    ∃ fs', extractMember dest fs arch m = Verdict.ok fs' ∧ lookup fs' (pathOf m) = some (Node.file m.content) ∧
      (∀ q, isPrefix q (pathOf m) = false → lookup fs' q = lookup fs q) ∧
      (∀ q, isPrefix q (pathOf m) = true → q ≠ pathOf m → lookup fs' q = some Node.dir) := by
  obtain ⟨fs', h1, _, h⟩ := benign_member (dest := dest) hl arch m hb ⟨hnf, htd⟩
  exact ⟨fs', h1, h.here, h.off, h.above⟩

/-- BENIGN ARCHIVES ARE EXTRACTED ENTIRELY: an archive of regular files with plain relative names, no name being another
  one or lying below another one, unpacked into an empty install directory: extraction ends without error and EVERY member
  is there with its content — for any number of members and any nesting depth (below the fuel of `realpath`).
  PARTIAL with respect to the property's "benign archive": directory members and repeated names are not covered by this
  theorem (the oracle checks them on the real extraction); permissions are outside the model. -/
theorem benign_archive_extracted (dest : Path) (ms : List Member) (hb : ∀ m ∈ ms, BenignFile m) (hpw : ms.Pairwise Apart) :
    ∃ fs', untar dest [] ms = (fs', none) ∧ ∀ m ∈ ms, lookup fs' (pathOf m) = some (Node.file m.content) := by
  obtain ⟨fs', h1, h2, _⟩ := benign_untarFrom (dest := dest) ms [] _ (fun _ h => nomatch h) hb hpw fun m hm =>
    ⟨fun x _ hx0 _ k h => (by rw [lookup_empty hx0] at h; cases h), by rw [lookup_empty (hb m hm).2.2.1]; nofun⟩
  exact ⟨fs', h1, h2⟩

end Kapture.C18
